import Model.Base64
/- `a2b` undoes `encode` followed by `pad`, in both alphabets (hence `stdEncode` is injective); a byte that is no
   alphabet character occurs in no encoding; the length of an encoding. -/
namespace Model.Base64
open Model

theorem val_ch (url : Bool) {n : Nat} (h : n < 64) : val url (ch url n) = some n := by
  have : ∀ n : Fin 64, val url (ch url n.val) = some n.val := by
    cases url <;> decide +kernel
  exact this ⟨n, h⟩

theorem ch_ne_of_val_none {url : Bool} {c : UInt8} (hc : val url c = none) (n : Nat) : ch url n ≠ c := by
  intro e
  by_cases h : n < 64
  · rw [← e, val_ch url h] at hc
    cases hc
  · have h63 : ch url n = ch url 63 := by
      rw [ch, if_neg (by omega), if_neg (by omega), if_neg (by omega), if_neg (by omega)]
      rfl
    rw [← e, h63, val_ch url (by omega)] at hc
    cases hc

theorem not_mem_encode {url : Bool} {c : UInt8} (hc : val url c = none) (b : Bytes) : c ∉ encode url b := by
  have hne (n : Nat) : ¬c = ch url n := (ch_ne_of_val_none hc n).symm
  fun_induction encode url b with
  | case1 => simp
  | case2 | case3 => simp [hne]
  | case4 _ _ _ _ ih => simp [hne, ih]

theorem a2b_ch (url : Bool) {n : Nat} (h : n < 64) (rest : List UInt8) (quad left pads : Nat) :
    a2b url (ch url n :: rest) quad left pads =
      match quad with
      | 0 => a2b url rest 1 n 0
      | 1 => (a2b url rest 2 (n % 16) 0).map (UInt8.ofNat (left * 4 + n / 16) :: ·)
      | 2 => (a2b url rest 3 (n % 4) 0).map (UInt8.ofNat (left * 16 + n / 4) :: ·)
      | _ => (a2b url rest 0 0 0).map (UInt8.ofNat (left * 64 + n) :: ·) := by
  have hpad : ch url n ≠ 61 := ch_ne_of_val_none (by cases url <;> rfl) n
  rcases quad with _ | _ | _ | q
  all_goals
    rw [a2b]
    simp only [hpad, if_false, val_ch url h]

theorem mul_add_div_of_lt (a : Nat) {d x : Nat} (hx : x < d) : (a * d + x) / d = a := by
  rw [Nat.add_comm, Nat.add_mul_div_right _ _ (Nat.zero_lt_of_lt hx), Nat.div_eq_of_lt hx, Nat.zero_add]

theorem encode_length_mod (url : Bool) : ∀ b : Bytes,
    (encode url b).length = 4 * (b.length / 3) + (if b.length % 3 = 0 then 0 else b.length % 3 + 1)
  | [] | [_] | [_, _] => by simp [encode]
  | a :: b :: c :: rest => by
    have h1 : (rest.length + 1 + 1 + 1) / 3 = rest.length / 3 + 1 := Nat.add_div_right _ (Nat.zero_lt_succ 2)
    have h2 : (rest.length + 1 + 1 + 1) % 3 = rest.length % 3 := Nat.add_mod_right _ 3
    simp only [encode, List.length_cons, encode_length_mod url rest, h1, h2]
    omega

theorem pad_cons4 (a b c d : UInt8) (s : List UInt8) :
    pad (a :: b :: c :: d :: s) = a :: b :: c :: d :: pad s := by
  have : (s.length + 1 + 1 + 1 + 1) % 4 = s.length % 4 := Nat.add_mod_right _ 4
  simp only [pad, List.length_cons, List.cons_append, this]

/-- Three octets are four characters, decoded by four steps of `a2b_ch`; a last group of one or two
    octets is two or three characters and `pad` supplies the `=` at which `a2b` stops. -/
theorem a2b_pad_encode (url : Bool) : ∀ b : Bytes, a2b url (pad (encode url b)) 0 0 0 = some b
  | [] => by simp [encode, pad, a2b]
  | [a] => by
    have ha := a.toNat_lt
    simp (disch := omega) only [encode, show pad [_, _] = [_, _, 61, 61] from rfl, a2b_ch,
      Nat.mul_div_cancel, Nat.div_add_mod', UInt8.ofNat_toNat]
    simp [a2b]
  | [a, b] => by
    have ha := a.toNat_lt
    have hb := b.toNat_lt
    simp (disch := omega) only [encode, show pad [_, _, _] = [_, _, _, 61] from rfl, a2b_ch,
      mul_add_div_of_lt, Nat.mul_add_mod_of_lt, Nat.mul_div_cancel, Nat.div_add_mod', UInt8.ofNat_toNat]
    simp [a2b]
  | a :: b :: c :: rest => by
    have ha := a.toNat_lt
    have hb := b.toNat_lt
    have hc := c.toNat_lt
    simp (disch := omega) only [encode, pad_cons4, a2b_ch, a2b_pad_encode url rest, Option.map_some,
      mul_add_div_of_lt, Nat.mul_add_mod_of_lt, Nat.div_add_mod', UInt8.ofNat_toNat]

/-- Round trip through authlib's own pair of functions, for every byte string. -/
theorem urlDecode_urlEncode (b : Bytes) : urlDecode (urlEncode b) = some b := a2b_pad_encode true b

theorem a2b_stdEncode (b : Bytes) : a2b false (stdEncode b) 0 0 0 = some b := a2b_pad_encode false b

theorem stdEncode_injective {a b : Bytes} (h : stdEncode a = stdEncode b) : a = b :=
  Option.some.inj ((a2b_stdEncode a).symm.trans (h ▸ a2b_stdEncode b))

end Model.Base64
