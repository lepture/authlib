import Model.Provider
/-
  What one request of the OAuth 2 provider (`Model.Provider.step`) does to the store, as a relation with one
  constructor per shape of the new store; C06, C09 and C19 argue by cases on it.
-/
namespace Model.Provider

section mkToken
variable (s : Store) (c : Client) (u : Option Nat) (sc : Option Text.Str) (r : Bool) (p : Prov) (e : Int)

theorem mkToken_access : (mkToken s c u sc r p e).1.access = s.fresh + 1 := by cases r <;> rfl

/-- the counter after the token (a refresh token takes a second number) -/
theorem mkToken_snd_ge : s.fresh + 1 ≤ (mkToken s c u sc r p e).2 := by
  cases r
  · exact Nat.le_refl _
  · exact Nat.le_succ _

theorem mkToken_prov : (mkToken s c u sc r p e).1.prov = p := by cases r <;> rfl

theorem mkToken_user : (mkToken s c u sc r p e).1.user = u := by cases r <;> rfl

theorem mkToken_client : (mkToken s c u sc r p e).1.client = c.id := by cases r <;> rfl

end mkToken

/-- The shapes the store can have after request `op`: `step s op` always yields one of them (`step_effect`); not
    every instance of a shape is reached (`refused` is there for every request). Only `redeem` keeps a guard of its
    request: which client, user or scope a token gets is read off `step` itself, not off the effect.
    * `refused`: every refusal, and the read-only requests (`introspect`, `access`): the store is returned as it was;
    * `authorize`: an approved authorization request appends the code numbered `fresh + 1`;
    * `redeem`: the token request of the code grant, `redeemCheck` passed: the token born from the code is appended
      and the code deleted;
    * `deviceAuthorize`: a device credential is appended (device code and user code take two numbers);
    * `userDecide`: the user's decision is recorded in front of the earlier ones;
    * `pollPending`: a poll before the decision records its time;
    * `issue`: a token that is not born from a code is appended (approved device poll, password and client
      credentials grants);
    * `refresh`: the presented token `n` is revoked and its replacement appended;
    * `revoke`: the revocation endpoint flags the records of token `n`;
    * `advance`: the clock moves. -/
inductive Effect (s : Store) : Op → Store → Prop
  | refused (op : Op) : Effect s op s
  | authorize (cid redirect scope challenge method user approve) :
      Effect s (.authorize cid redirect scope challenge method user approve)
        { s with fresh := s.fresh + 1,
                 codes := s.codes ++ [⟨s.fresh + 1, cid, redirect, scope, user, challenge, method, s.now⟩] }
  | redeem {auth code redirect verifier c m rec} (h : redeemCheck s auth code redirect verifier = .ok (c, m, rec))
      (sc e) :
      Effect s (.redeem auth code redirect verifier)
        { s with fresh := (mkToken s c (some rec.user) sc true (.code rec.n) e).2,
                 tokens := s.tokens ++ [(mkToken s c (some rec.user) sc true (.code rec.n) e).1],
                 codes := s.codes.filter fun r => r.n != rec.n }
  | deviceAuthorize (auth cid scope) (d : DevRec) :
      Effect s (.deviceAuthorize auth cid scope) { s with fresh := s.fresh + 2, devices := s.devices ++ [d] }
  | userDecide (uc user approve) :
      Effect s (.userDecide uc user approve) { s with grants := (uc, user, approve) :: s.grants }
  | pollPending (auth dc) (lp : List (Nat × Int)) : Effect s (.poll auth dc) { s with lastPoll := lp }
  | issue (op : Op) (c u sc r p e) (hp : ∀ k, p ≠ .code k) :
      Effect s op { s with fresh := (mkToken s c u sc r p e).2, tokens := s.tokens ++ [(mkToken s c u sc r p e).1] }
  | refresh (auth token scope) (c u sc e) (n : Nat) :
      Effect s (.refresh auth token scope)
        { s with fresh := (mkToken s c u sc true (.refresh n) e).2,
                 tokens := revokeTok s.tokens n true true ++ [(mkToken s c u sc true (.refresh n) e).1] }
  | revoke (auth token hint) (n : Nat) (r : Bool) :
      Effect s (.revoke auth token hint) { s with tokens := revokeTok s.tokens n true r }
  | advance (dt : Nat) : Effect s (.advance dt) { s with now := s.now + dt }

theorem step_effect (s : Store) (op : Op) : Effect s op (step s op).1 := by
  fun_cases step s op <;> constructor
  · assumption
  all_goals nofun

theorem Effect.fresh_le {s : Store} {op : Op} {s' : Store} (h : Effect s op s') : s.fresh ≤ s'.fresh := by
  cases h
  case redeem | issue | refresh => exact Nat.le_of_succ_le (mkToken_snd_ge ..)
  all_goals simp

theorem Effect.tokens_length_le {s : Store} {op : Op} {s' : Store} (h : Effect s op s') :
    s.tokens.length ≤ s'.tokens.length := by
  cases h <;> simp only [revokeTok, List.length_append, List.length_map, Nat.le_add_right, Nat.le_refl]

end Model.Provider
