import Model.Percent
import Lemmas.List
/- `unquote ∘ quote`, `unquote_plus ∘ quote_plus`, `split ∘ join` and `parse_qsl ∘ urlencode` are identities. -/
namespace Model.Percent
open Model

theorem hexVal_hexUp {n : Nat} (h : n < 16) : hexValB (hexUp n) = some n :=
  (by decide +kernel : ∀ n : Fin 16, hexValB (hexUp n.val) = some n.val) ⟨n, h⟩

theorem unquote_cons_ne {c : UInt8} (h : c ≠ 37) (t : Bytes) : unquote (c :: t) = c :: unquote t := by
  match t with
  | [] | [_] => simp [unquote]
  | a :: b :: r => simp [unquote, h]

theorem unquote_pct (c : UInt8) (t : Bytes) :
    unquote (37 :: hexUp (c.toNat / 16) :: hexUp (c.toNat % 16) :: t) = c :: unquote t := by
  have hc := UInt8.toNat_lt c
  rw [unquote, if_pos rfl, hexVal_hexUp (by omega), hexVal_hexUp (by omega)]
  simp only
  rw [Nat.div_add_mod' c.toNat 16, UInt8.ofNat_toNat]

theorem unquote_of_not_mem : ∀ b : Bytes, (37 : UInt8) ∉ b → unquote b = b
  | [], _ => rfl
  | c :: t, h => by
    rw [unquote_cons_ne (fun e => h (e ▸ List.mem_cons_self)),
      unquote_of_not_mem t fun m => h (List.mem_cons_of_mem _ m)]

/-- `unquote(quote(b, safe)) = b` for every octet string, as long as `%` itself is not "safe". -/
theorem unquote_quote (safe : UInt8 → Bool) (hs : safe 37 = false) :
    ∀ b : Bytes, unquote (quote safe b) = b
  | [] => rfl
  | c :: rest => by
    rw [quote]
    split
    next h =>
      have hne : c ≠ 37 := by
        rintro rfl
        rw [hs] at h
        exact absurd h (by decide)
      rw [unquote_cons_ne hne, unquote_quote safe hs rest]
    · rw [unquote_pct, unquote_quote safe hs rest]

theorem alwaysSafe_hexUp : ∀ n : Fin 16, alwaysSafe (hexUp n.val) = true := by decide

/-- an octet that is neither safe nor `%` occurs in no quoted string: what is escaped becomes `%` and two hex digits,
    and those are always safe -/
theorem not_mem_quote (safe : UInt8 → Bool) (x : UInt8) (hx : alwaysSafe x = false) (hs : safe x = false)
    (h37 : x ≠ 37) : ∀ b : Bytes, x ∉ quote safe b
  | [] => List.not_mem_nil
  | c :: rest => by
    have ih := not_mem_quote safe x hx hs h37 rest
    have hhex (n : Fin 16) : hexUp n.val ≠ x := fun e => Bool.false_ne_true (hx.symm.trans (e ▸ alwaysSafe_hexUp n))
    have hc := UInt8.toNat_lt c
    rw [quote]
    split
    next h =>
      have hne : x ≠ c := by
        rintro rfl
        simp [hx, hs] at h
      simpa [hne] using ih
    · simp only [List.mem_cons, not_or]
      exact ⟨h37, (hhex ⟨c.toNat / 16, by omega⟩).symm, (hhex ⟨c.toNat % 16, by omega⟩).symm, ih⟩

/-- urllib defines `quote_plus(b)` as `quote(b, safe=" ").replace(" ", "+")` -/
theorem plusToSpace_quotePlus : ∀ b : Bytes,
    (quotePlus b).map (fun c => if c = 43 then 32 else c) = quote (fun c => c = 32) b
  | [] => rfl
  | c :: rest => by
    have ih := plusToSpace_quotePlus rest
    have hc := UInt8.toNat_lt c
    have hex (n : Fin 16) : hexUp n.val ≠ 43 := fun e => absurd (e ▸ alwaysSafe_hexUp n) (by decide)
    rw [quotePlus, quote]
    split
    next h => simp [h, ih]
    next h32 =>
      split
      next hs =>
        have h43 : c ≠ 43 := by
          rintro rfl
          exact absurd hs (by decide)
        simp [hs, h43, ih]
      next hs => simp [hs, h32, ih, hex ⟨c.toNat / 16, by omega⟩, hex ⟨c.toNat % 16, by omega⟩]

theorem unquotePlus_quotePlus (b : Bytes) : unquotePlus (quotePlus b) = b := by
  rw [unquotePlus, plusToSpace_quotePlus, unquote_quote _ (by decide)]

theorem not_mem_quotePlus (x : UInt8) (h43 : x ≠ 43) (h32 : x ≠ 32) (hx : alwaysSafe x = false) (h37 : x ≠ 37)
    (b : Bytes) : x ∉ quotePlus b := by
  intro h
  have := List.mem_map_of_mem (f := fun c => if c = 43 then 32 else c) h
  rw [plusToSpace_quotePlus, if_neg h43] at this
  exact not_mem_quote _ x hx (by simpa using h32) h37 b this

theorem amp_not_in_quotePlus (b : Bytes) : (38 : UInt8) ∉ quotePlus b :=
  not_mem_quotePlus 38 (by decide) (by decide) (by decide) (by decide) b

theorem eq_not_in_quotePlus (b : Bytes) : (61 : UInt8) ∉ quotePlus b :=
  not_mem_quotePlus 61 (by decide) (by decide) (by decide) (by decide) b

theorem splitOn_nosep (sep : UInt8) : ∀ b : Bytes, sep ∉ b → splitOn sep b = [b]
  | [], _ => rfl
  | c :: rest, h => by
    have ⟨hc, hr⟩ := List.ne_and_not_mem_of_not_mem_cons h
    simp [splitOn, hc.symm, splitOn_nosep sep rest hr]

theorem splitOn_append_sep (sep : UInt8) : ∀ (a t : Bytes), sep ∉ a →
    splitOn sep (a ++ sep :: t) = a :: splitOn sep t
  | [], t, _ => by simp [splitOn]
  | c :: rest, t, h => by
    have ⟨hc, hr⟩ := List.ne_and_not_mem_of_not_mem_cons h
    simp [splitOn, hc.symm, splitOn_append_sep sep rest t hr]

theorem splitOn_join (sep : UInt8) : ∀ xs : List Bytes, xs ≠ [] → (∀ x ∈ xs, sep ∉ x) →
    splitOn sep (join sep xs) = xs
  | [], h, _ => absurd rfl h
  | [x], _, hx => splitOn_nosep sep x (hx x List.mem_cons_self)
  | x :: y :: rest, _, hx => by
    rw [join, splitOn_append_sep sep x _ (hx x List.mem_cons_self),
      splitOn_join sep (y :: rest) (List.cons_ne_nil _ _) fun z hz => hx z (List.mem_cons_of_mem _ hz)]

theorem split1_append (sep : UInt8) : ∀ (a t : Bytes), sep ∉ a →
    split1 sep (a ++ sep :: t) = (a, some t)
  | [], t, _ => by simp [split1]
  | c :: rest, t, h => by
    have ⟨hc, hr⟩ := List.ne_and_not_mem_of_not_mem_cons h
    simp [split1, hc.symm, split1_append sep rest t hr]

theorem split1_spec {sep : UInt8} {s h p : Bytes} (e : split1 sep s = (h, some p)) :
    s = h ++ sep :: p ∧ sep ∉ h := by
  fun_induction split1 sep s generalizing h with
  | case1 => cases e
  | case2 =>
    cases e
    simp
  | case3 _ _ hc _ _ hr ih =>
    cases e
    simpa [Ne.symm hc] using ih hr

/-- the undecoded (name, value) pieces `parse_qsl` sees -/
def splitPairs (qs : Bytes) : List (Bytes × Bytes) :=
  (splitOn 38 qs).filterMap fun nv => if nv.isEmpty then none else some ((split1 61 nv).1, (split1 61 nv).2.getD [])

theorem parseQsl_eq (qs : Bytes) : parseQsl qs = (splitPairs qs).map fun p => (unquotePlus p.1, unquotePlus p.2) := by
  rw [parseQsl, splitPairs, List.map_filterMap]
  congr 1
  funext nv
  split <;> rfl

theorem splitPairs_join (ps : List (Bytes × Bytes))
    (h : ∀ p ∈ ps, (38 : UInt8) ∉ p.1 ∧ (61 : UInt8) ∉ p.1 ∧ (38 : UInt8) ∉ p.2) :
    splitPairs (join 38 (ps.map fun p => p.1 ++ 61 :: p.2)) = ps := by
  cases ps with
  | nil => rfl
  | cons p ps =>
    rw [splitPairs, splitOn_join 38 _ (by simp), List.filterMap_map]
    · refine (List.filterMap_congr fun q hq => ?_).trans List.filterMap_some
      simp [split1_append 61 _ _ (h q hq).2.1]
    · intro x hx
      obtain ⟨q, hq, rfl⟩ := List.mem_map.mp hx
      simp [(h q hq).1, (h q hq).2.2]

/-- `parse_qsl(urlencode(ps), keep_blank_values=True) == ps` for every list of octet pairs. -/
theorem parseQsl_urlencode (ps : List (Bytes × Bytes)) : parseQsl (urlencode ps) = ps := by
  have : urlencode ps = join 38 ((ps.map fun p => (quotePlus p.1, quotePlus p.2)).map fun p => p.1 ++ 61 :: p.2) := by
    rw [urlencode, List.map_map]
    rfl
  rw [parseQsl_eq, this, splitPairs_join, List.map_map]
  · simp [Function.comp_def, unquotePlus_quotePlus]
  · intro p hp
    obtain ⟨q, _, rfl⟩ := List.mem_map.mp hp
    exact ⟨amp_not_in_quotePlus _, eq_not_in_quotePlus _, amp_not_in_quotePlus _⟩

end Model.Percent
