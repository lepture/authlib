import Model.OAuth1Flow
/-
  What one request of the OAuth 1.0 provider (`Model.OAuth1Flow.step`) does to the store, as a relation with one
  constructor per shape of the new store; C12 and C19 argue by cases on it.
-/
namespace Model.OAuth1Flow

/-- The shapes the store can have after request `op`: `step s op` always yields one of them (`step_effect`); not
    every instance of a shape is reached (`refused` is there for every request).
    * `refused`: a refusal before the timestamp/nonce check, or a denied / unknown authorization: nothing changes;
    * `nonce`: the timestamp/nonce check passed and recorded the nonce, whatever the signature check said afterwards
      (`initiate` with a bad signature, every `access` that got that far);
    * `initiate`: a temporary credential numbered `fresh + 1` is appended (its secret takes the next number);
    * `authorize`: the resource owner approved: temporary credential `n` gets verifier `v` and user `u`;
    * `exchangeError`: a refused token request; it may have recorded its nonce and it deletes the temporary
      credential it named (`create_token_response` does so on every validation error);
    * `exchange`: `exchangeCheck` passed: the token credential is appended, the temporary credential deleted;
    * `advance`: the clock moves. -/
inductive Effect (s : Store) : Op → Store → Prop
  | refused (op : Op) : Effect s op s
  | nonce (op : Op) {sg client token ns} (h : checkTsNonce s sg client token = .ok ns) :
      Effect s op { s with nonces := ns }
  | initiate (client callback callbackValid sg) {ns} (h : checkTsNonce s sg (client.getD "") none = .ok ns) :
      Effect s (.initiate client callback callbackValid sg)
        { s with nonces := ns, fresh := s.fresh + 2,
                 temps := s.temps ++ [⟨s.fresh + 1, client.getD "", callback, none, none⟩] }
  | authorize (token user) (n v u : Nat) :
      Effect s (.authorize token user)
        { s with fresh := s.fresh + 1,
                 temps := s.temps.map fun x => if x.n == n then { x with verifier := some v, user := some u } else x }
  | exchangeError {client token verifier sg e ns} (h : exchangeCheck s client token verifier sg = .error (e, ns))
      (ts : List TempRec) (hts : ts ⊆ s.temps) :
      Effect s (.exchange client token verifier sg) { s with nonces := ns, temps := ts }
  | exchange {client token verifier sg t ns} (h : exchangeCheck s client token verifier sg = .ok (t, ns)) :
      Effect s (.exchange client token verifier sg)
        { s with nonces := ns, fresh := s.fresh + 2, creds := s.creds ++ [⟨s.fresh + 1, client.getD "", t.user, t.n⟩],
                 temps := s.temps.filter fun x => x.n != t.n }
  | advance (dt : Nat) : Effect s (.advance dt) { s with now := s.now + dt }

theorem step_effect (s : Store) (op : Op) : Effect s op (step s op).1 := by
  fun_cases step s op <;> constructor <;> try assumption
  split
  · exact List.filter_sublist.subset
  · exact List.Subset.refl _

end Model.OAuth1Flow
