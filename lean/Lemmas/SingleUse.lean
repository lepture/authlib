/-
  Single use of numbered credentials, over plain numbers: `pending` are the numbers of the credentials that can still
  be redeemed, `born` the numbers that a record was issued for, `fresh` the allocation counter. Both provider
  invariants (`Props.C06.Inv`, `Props.C12.Inv`) are instances, and every request does one of three things to it.
-/
structure SingleUse (pending born : List Nat) (fresh : Nat) : Prop where
  pending_le : ∀ n ∈ pending, n ≤ fresh
  born_le : ∀ k ∈ born, k ≤ fresh ∧ ∀ n ∈ pending, n ≠ k
  distinct : born.Pairwise (· ≠ ·)

namespace SingleUse
variable {p p' b : List Nat} {f f' k : Nat}

theorem mono (h : SingleUse p b f) (hf : f ≤ f') (hp : p' ⊆ p) : SingleUse p' b f' :=
  ⟨fun n hn => Nat.le_trans (h.pending_le n (hp hn)) hf,
   fun k hk => ⟨Nat.le_trans (h.born_le k hk).1 hf, fun n hn => (h.born_le k hk).2 n (hp hn)⟩, h.distinct⟩

/-- the number above the counter is new: everything pending or born is bounded by the counter -/
theorem alloc (h : SingleUse p b f) (hf : f < f') : SingleUse (p ++ [f + 1]) b f' := by
  refine ⟨fun n hn => ?_, fun k hk => ⟨Nat.le_trans (h.born_le k hk).1 (Nat.le_of_lt hf), fun n hn => ?_⟩, h.distinct⟩
  all_goals rcases List.mem_append.mp hn with hn | hn
  · exact Nat.le_trans (h.pending_le n hn) (Nat.le_of_lt hf)
  · exact List.mem_singleton.mp hn ▸ hf
  · exact (h.born_le k hk).2 n hn
  · exact List.mem_singleton.mp hn ▸ Nat.ne_of_gt (Nat.lt_succ_of_le (h.born_le k hk).1)

/-- nothing was born from `k` before, as `k` was still pending -/
theorem consume (h : SingleUse p b f) (hk : k ∈ p) : SingleUse (p.filter (· != k)) (b ++ [k]) f := by
  refine ⟨fun n hn => h.pending_le n (List.mem_filter.mp hn).1, fun x hx => ?_, ?_⟩
  · rcases List.mem_append.mp hx with hx | hx
    · exact ⟨(h.born_le x hx).1, fun n hn => (h.born_le x hx).2 n (List.mem_filter.mp hn).1⟩
    · rw [List.mem_singleton.mp hx]
      exact ⟨h.pending_le k hk, fun n hn => bne_iff_ne.mp (List.mem_filter.mp hn).2⟩
  · refine List.pairwise_append.mpr ⟨h.distinct, List.pairwise_singleton _ _, fun x hx y hy e => ?_⟩
    exact (h.born_le x hx).2 k hk (e.trans (List.mem_singleton.mp hy)).symm

end SingleUse
