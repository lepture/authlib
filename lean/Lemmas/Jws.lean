import Model.Jws
/- The allow-list test and `rsplit1` (the split at the LAST dot) of the compact deserializer, for C01 and C02. -/
namespace Model.Jws
open Model

theorem allowedOk_iff (allowed : Option (List String)) (name : String) :
    allowedOk allowed name = true ↔ ∀ l, allowed = some l → name ∈ l := by
  cases allowed <;> simp [allowedOk]

theorem rsplit1_eq_none (sep : UInt8) (s : Bytes) : rsplit1 sep s = none ↔ sep ∉ s := by
  fun_induction rsplit1 sep s with
  | case1 => simp
  | case2 _ _ _ _ hr ih =>
    rw [hr] at ih
    simp only [reduceCtorEq, false_iff, Classical.not_not] at ih
    simp [ih]
  | case3 => simp
  | case4 _ _ hr hc ih =>
    rw [hr] at ih
    simp [Ne.symm hc, ← ih]

theorem rsplit1_spec {sep : UInt8} {s a g : Bytes} (h : rsplit1 sep s = some (a, g)) :
    s = a ++ sep :: g ∧ sep ∉ g := by
  fun_induction rsplit1 sep s generalizing a with
  | case1 => cases h
  | case2 _ _ _ _ hr ih =>
    cases h
    simpa using ih hr
  | case3 _ hr =>
    cases h
    exact ⟨rfl, (rsplit1_eq_none sep _).mp hr⟩
  | case4 => cases h

theorem rsplit1_append (sep : UInt8) (g : Bytes) (hg : sep ∉ g) :
    ∀ a : Bytes, rsplit1 sep (a ++ sep :: g) = some (a, g)
  | [] => by simp [rsplit1, (rsplit1_eq_none sep g).mpr hg]
  | c :: a => by simp [rsplit1, rsplit1_append sep g hg a]

end Model.Jws
