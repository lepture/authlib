import Model.Claims
/- The inversion of the `orElse'` chain in which the validators over `Model.Claims` are written (`Claims.validate` in C04,
   `IdToken.validate` in C13); what the single checks of the chain mean is proved next to the specification, in Props/C04. -/
namespace Model.Claims

theorem orElse'_eq_none {a : Option Err} {b : Unit → Option Err} :
    orElse' a b = none ↔ a = none ∧ b () = none := by
  cases a <;> simp [orElse']

theorem orElse'_eq_some {a : Option Err} {b : Unit → Option Err} {e : Err} (h : orElse' a b = some e) :
    a = some e ∨ b () = some e := by
  cases a with
  | none => exact .inr h
  | some e' => exact .inl h

theorem Atom.pyEq_str (a b : String) : Atom.pyEq (.str a) (.str b) = (a == b) := rfl

end Model.Claims
