import Model.Bytes
/- `beNat` undoes `natBE` (C03: the AL and length prefixes are injective; C16: integer members of a JWK). -/
namespace Model

@[simp] theorem natBE_length (len n : Nat) : (natBE len n).length = len := by
  induction len generalizing n with
  | zero => simp [natBE]
  | succ k ih => simp [natBE, ih]

theorem beNat_append_single (b : Bytes) (x : UInt8) : beNat (b ++ [x]) = beNat b * 256 + x.toNat := by
  simp [beNat]

theorem beNat_natBE : ∀ (len n : Nat), n < 256 ^ len → beNat (natBE len n) = n
  | 0, n, h => by
    simp at h
    subst h
    rfl
  | len + 1, n, h => by
    rw [natBE, beNat_append_single, UInt8.toNat_ofNat', beNat_natBE len (n / 256) (by rw [Nat.pow_succ] at h; omega)]
    omega

theorem natBE_inj (len : Nat) {n m : Nat} (hn : n < 256 ^ len) (hm : m < 256 ^ len)
    (h : natBE len n = natBE len m) : n = m := by
  rw [← beNat_natBE len n hn, h, beNat_natBE len m hm]

end Model
