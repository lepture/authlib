/-
  In Lean 4.33 a `String` is its UTF-8 bytes, and `String.toList` decodes them by well-founded recursion, which the
  kernel evaluates some ten times slower than it reads the bytes of a literal. For a property that only ASCII
  characters can have, testing the bytes is testing the characters (`String.forall_bytes_iff`).
-/

theorem String.toList_bytes (s : String) : s.toByteArray.data.toList = s.toList.flatMap String.utf8EncodeChar := by
  rw [← String.utf8Encode_toList, List.utf8Encode, List.toList_data_toByteArray]

theorem String.forall_utf8EncodeChar_iff {q : Nat → Prop} (hq : ∀ n, q n → n < 128) (c : Char) :
    (∀ b ∈ String.utf8EncodeChar c, q b.toNat) ↔ q c.toNat := by
  have lead : ∀ n, 128 ≤ n % 256 → ¬ q (UInt8.ofNat n).toNat := fun n hn hqn => by
    have := hq _ hqn
    rw [UInt8.toNat_ofNat'] at this
    omega
  fun_cases String.utf8EncodeChar c
  next h =>
    rw [List.forall_mem_singleton, UInt8.toNat_ofNat', Nat.mod_eq_of_lt (Nat.lt_of_le_of_lt h (by decide))]
    rfl
  -- two, three or four bytes: the first is at least 0xC0, and `c` is not ASCII
  all_goals
    refine iff_of_false (fun hall => lead _ (by omega) (hall _ List.mem_cons_self)) fun hqc => ?_
    have : c.val.toNat < 128 := hq _ hqc
    omega

theorem String.forall_bytes_iff {q : Nat → Prop} (hq : ∀ n, q n → n < 128) (s : String) :
    (∀ b ∈ s.toByteArray.data.toList, q b.toNat) ↔ ∀ c ∈ s.toList, q c.toNat := by
  rw [String.toList_bytes, List.forall_mem_flatMap]
  exact forall₂_congr fun c _ => String.forall_utf8EncodeChar_iff hq c
