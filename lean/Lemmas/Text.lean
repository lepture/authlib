import Model.Text
/- `s.split()` yields words only, and `" ".join(ws).split() == ws` for words `ws`. -/
namespace Model.Text

theorem splitWsAux_word (w cur : Str) (hw : ∀ c ∈ w, isPySpace c = false) (rest : Str) :
    splitWsAux (w ++ rest) cur = splitWsAux rest (cur ++ w) := by
  induction w generalizing cur with
  | nil => simp
  | cons c w ih =>
    rw [List.cons_append, splitWsAux, if_neg (by simp [hw c List.mem_cons_self]),
      ih _ fun d hd => hw d (List.mem_cons_of_mem _ hd), List.append_assoc, List.singleton_append]

theorem splitWsAux_isWord (s cur : Str) (hcur : ∀ c ∈ cur, isPySpace c = false) :
    ∀ w ∈ splitWsAux s cur, IsWord w := by
  fun_induction splitWsAux s cur with
  | case1 => exact fun w hw => nomatch hw
  | case2 _ h =>
    intro w hw
    cases List.mem_singleton.mp hw
    exact ⟨by simpa using h, hcur⟩
  | case3 _ _ _ _ _ ih => exact ih (fun c hc => nomatch hc)
  | case4 _ _ _ _ hce ih =>
    intro w hw
    rcases List.mem_cons.mp hw with rfl | hw
    · exact ⟨by simpa using hce, hcur⟩
    · exact ih (fun c hc => nomatch hc) w hw
  | case5 _ _ _ hsp ih =>
    refine ih fun d hd => ?_
    rcases List.mem_append.mp hd with hd | hd
    · exact hcur d hd
    · cases List.mem_singleton.mp hd
      simpa using hsp

theorem splitWs_isWord (s : Str) : ∀ w ∈ splitWs s, IsWord w :=
  splitWsAux_isWord s [] (by simp)

theorem splitWs_joinSp : ∀ ws : List Str, (∀ w ∈ ws, IsWord w) → splitWs (joinSp ws) = ws
  | [], _ => rfl
  | [w], h => by
    have ⟨hne, hw⟩ := h w List.mem_cons_self
    have := splitWsAux_word w [] hw []
    rw [List.append_nil, List.nil_append] at this
    simp [splitWs, joinSp, this, splitWsAux, hne]
  | w :: v :: rest, h => by
    have ⟨hne, hw⟩ := h w List.mem_cons_self
    have ih := splitWs_joinSp (v :: rest) fun x hx => h x (List.mem_cons_of_mem _ hx)
    rw [splitWs] at ih ⊢
    rw [joinSp, splitWsAux_word w [] hw, List.nil_append, splitWsAux, if_pos (by decide),
      if_neg (by simpa using hne), ih]

end Model.Text
