/-
  Byte strings and small generic helpers. Core Lean only.
-/
namespace Model

abbrev Bytes := List UInt8

def hexDigit (n : Nat) : Char :=
  if n < 10 then Char.ofNat (48 + n) else Char.ofNat (87 + n)

def toHex (b : Bytes) : String :=
  String.ofList (b.flatMap fun x => [hexDigit (x.toNat / 16), hexDigit (x.toNat % 16)])

def hexVal (c : Char) : Option Nat :=
  if '0' ≤ c ∧ c ≤ '9' then some (c.toNat - 48)
  else if 'a' ≤ c ∧ c ≤ 'f' then some (c.toNat - 87)
  else if 'A' ≤ c ∧ c ≤ 'F' then some (c.toNat - 55)
  else none

def ofHexAux : List Char → Option Bytes
  | [] => some []
  | [_] => none
  | a :: b :: rest => do
    let x ← hexVal a
    let y ← hexVal b
    let r ← ofHexAux rest
    pure (UInt8.ofNat (x * 16 + y) :: r)

def ofHex (s : String) : Option Bytes := ofHexAux s.toList

def strBytes (s : String) : Bytes := s.toUTF8.toList

/-- big-endian natural number of a byte string (`int.from_bytes(b, "big")`) -/
def beNat (b : Bytes) : Nat := b.foldl (fun acc x => acc * 256 + x.toNat) 0

/-- big-endian encoding on exactly `len` bytes (low `len` bytes of `n`) -/
def natBE : Nat → Nat → Bytes
  | 0, _ => []
  | len + 1, n => natBE len (n / 256) ++ [UInt8.ofNat (n % 256)]

end Model
