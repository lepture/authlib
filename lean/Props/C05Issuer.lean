import Props.C05Core
/-
  C05 with the RFC 9207 extension (authlib/oauth2/rfc9207/parameter.py) registered on the grants: the
  `iss` response parameter is added to what the decision step answers — the redirect target stays a
  registered URI, state is still echoed exactly once, credentials still need approval, and `iss`
  appears exactly once.
-/
namespace Props.C05Issuer
open Model.Authorize Props.C05

theorem withIssuer_redirect {issuer : Option String} {resp : Resp} {t : String} {m : Mode}
    {ps : List (String × String)} (h : withIssuer issuer resp = .redirect t m ps) :
    ∃ ps0, resp = .redirect t m ps0 ∧
      ps = ps0 ++ if truthy issuer ∧ m ≠ .formPost then [("iss", issuer.getD "")] else [] := by
  revert h
  fun_cases withIssuer issuer resp <;> intro h
  next hc =>
    cases h
    exact ⟨_, rfl, by rw [if_pos (by simpa using hc)]⟩
  next hc =>
    cases h
    exact ⟨_, rfl, by rw [if_neg (by simpa using hc), List.append_nil]⟩
  next hno => exact absurd h (hno t m ps)

/-- with the extension registered, a 302 still goes only to a registered redirect URI -/
theorem issuer_redirect_only_to_registered (cfg : Config) (issuer : Option String) (r : Req) (approve : Bool) (t : String) (m : Mode)
    (ps : List (String × String)) (h : respondIss cfg issuer r approve = .redirect t m ps) : Registered cfg r t := by
  obtain ⟨ps0, h0, _⟩ := withIssuer_redirect h
  exact redirect_only_to_registered cfg r approve t m ps0 h0

/-- … state is still returned unchanged, exactly once -/
theorem issuer_state_echoed_once_unchanged (cfg : Config) (issuer : Option String) (r : Req) (approve : Bool) (t : String) (m : Mode)
    (ps : List (String × String)) (h : respondIss cfg issuer r approve = .redirect t m ps) :
    stateValues ps = if truthy r.state then [r.state.getD ""] else [] := by
  obtain ⟨ps0, h0, rfl⟩ := withIssuer_redirect h
  rw [← state_echoed_once_unchanged cfg r approve t m ps0 h0, stateValues, List.filter_append]
  split <;> simp [stateValues]

/-- … a code or token still appears only if the resource owner approved -/
theorem issuer_credential_only_if_approved (cfg : Config) (issuer : Option String) (r : Req) (approve : Bool) (t : String) (m : Mode)
    (ps : List (String × String)) (h : respondIss cfg issuer r approve = .redirect t m ps)
    (hcred : ∃ p ∈ ps, isCredential p.1 = true) : approve = true := by
  obtain ⟨ps0, h0, rfl⟩ := withIssuer_redirect h
  obtain ⟨p, hp, hc⟩ := hcred
  refine credential_only_if_approved cfg r approve t m ps0 h0 ⟨p, ?_, hc⟩
  rcases List.mem_append.mp hp with hp | hp
  · exact hp
  · split at hp
    · rw [List.mem_singleton.mp hp] at hc
      exact absurd hc (show ¬ isCredential "iss" = true by decide)
    · cases hp

/-- **RFC 9207 §2.** With an issuer configured, every 302 of the decision step — success and error alike — carries `iss`
    exactly once, with the configured value, after the step's own parameters; a form_post page carries none -/
theorem iss_exactly_once (cfg : Config) (issuer : String) (hi : issuer ≠ "") (r : Req) (approve : Bool) (t : String) (m : Mode)
    (ps : List (String × String)) (h : respondIss cfg (some issuer) r approve = .redirect t m ps) :
    ps.filter (fun p => p.1 == "iss") = if m = .formPost then [] else [("iss", issuer)] := by
  obtain ⟨ps0, h0, rfl⟩ := withIssuer_redirect h
  obtain ⟨_, body, rfl, hb⟩ := respond_redirect h0
  have ht : truthy (some issuer) = true := by simpa [truthy] using hi
  -- none of the step's own parameters is named `iss`
  rw [List.filter_append, List.filter_append, filter_key_eq_nil (body_keys hb) (by simp),
    filter_key_eq_nil (stateParam_keys r.state) (by simp)]
  by_cases hm : m = .formPost <;> simp [ht, hm]

end Props.C05Issuer
