import Props.C10Jwt
import Model.Resource
/-
  C10 — a protected resource is served iff the request carries an Authorization header of a
  registered token type whose token is known, unexpired and unrevoked and whose scope wholly
  contains at least one required alternative; otherwise 401 (three kinds) or 403.
-/
namespace Props.C10
open Model.Text Model.Resource

/-- the scope requirement of the property statement -/
def ScopeOk (tokenScope : Option Str) (required : Option (List Str)) : Prop :=
  match required with
  | none => True
  | some [] => True
  | some alts => ∃ ts, tokenScope = some ts ∧ ∃ alt ∈ alts, ∀ w ∈ splitWs alt, w ∈ splitWs ts

/-- the statement's "served" condition -/
def Acceptable (types : List Str) (db : Str → Option Tok) (auth : Option Str)
    (required : Option (List Str)) : Prop :=
  ∃ a ty tok t, auth = some a ∧ splitNone1 a = some (ty, tok) ∧ lower ty ∈ types ∧
    db tok = some t ∧ t.expired = false ∧ t.revoked = false ∧ ScopeOk t.scope required

/-- Guard of `served_iff`: an alternative with no word would make `ScopeOk` hold of every token, while the code
    (`scope_insufficient`) refuses a token whose own scope is empty whatever the alternatives are. -/
def AltsNonEmpty (required : Option (List Str)) : Prop :=
  ∀ alts, required = some alts → ∀ alt ∈ alts, splitWs alt ≠ []

theorem scopeInsufficient_false_iff (ts : Option Str) (req : Option (List Str)) (hne : AltsNonEmpty req) :
    scopeInsufficient ts req = false ↔ ScopeOk ts req := by
  unfold scopeInsufficient ScopeOk
  rcases req with _ | _ | ⟨a, as⟩
  · simp
  · simp
  rcases ts with _ | s
  · simp
  simp only [Option.some.injEq, exists_eq_left']
  split
  next hE =>
    simp only [Bool.true_eq_false, false_iff, not_exists, not_and]
    intro alt halt hall
    cases hsa : splitWs alt with
    | nil => exact hne _ rfl alt halt hsa
    | cons w ws => simpa [List.isEmpty_iff.mp hE] using hall w (by simp [hsa])
  · simp only [List.contains_eq_mem, Bool.not_eq_eq_eq_not, Bool.not_false, List.any_eq_true, List.all_eq_true,
      decide_eq_true_eq]

theorem splitNone1_nonempty {a : Str} {p : Str × Str} (h : splitNone1 a = some p) : a.isEmpty = false := by
  cases a
  · cases h
  · rfl

theorem protect_eq_iff {types : List Str} {db : Str → Option Tok} {auth : Option Str} {req : Option (List Str)}
    {d : Decision} (h1 : d ≠ .missingAuthorization) (h2 : d ≠ .unsupportedTokenType) :
    protect types db auth req = d ↔ ∃ a ty tok, auth = some a ∧ splitNone1 a = some (ty, tok) ∧ lower ty ∈ types ∧
      validateToken (db tok) req = d := by
  constructor
  · fun_cases protect types db auth req <;> intro h
    · exact absurd h.symm h1
    · exact absurd h.symm h1
    · exact absurd h.symm h2
    next a _ ty tok hsp hty => exact ⟨a, ty, tok, rfl, hsp, List.contains_iff_mem.mp hty, h⟩
    · exact absurd h.symm h2
  · rintro ⟨a, ty, tok, rfl, hsp, hty, hv⟩
    simpa [protect, splitNone1_nonempty hsp, hsp, hty] using hv

theorem validateToken_served {t : Option Tok} {req : Option (List Str)} : validateToken t req = .served ↔
    ∃ tk, t = some tk ∧ tk.expired = false ∧ tk.revoked = false ∧ scopeInsufficient tk.scope req = false := by
  fun_cases validateToken t req <;> simp [*]

theorem validateToken_insufficient {t : Option Tok} {req : Option (List Str)} :
    validateToken t req = .insufficientScope ↔
      ∃ tk, t = some tk ∧ tk.expired = false ∧ tk.revoked = false ∧ scopeInsufficient tk.scope req = true := by
  fun_cases validateToken t req <;> simp [*]

theorem validateToken_invalid {t : Option Tok} {req : Option (List Str)} : validateToken t req = .invalidToken ↔
    t = none ∨ ∃ tk, t = some tk ∧ (tk.expired = true ∨ tk.revoked = true) := by
  fun_cases validateToken t req <;> simp [*]

/-- **C10 (bearer tokens)**: served if and only if the statement's condition holds — for every
    header string, token table, registered type list and scope requirement. -/
theorem served_iff (types : List Str) (db : Str → Option Tok) (auth : Option Str)
    (req : Option (List Str)) (hne : AltsNonEmpty req) :
    protect types db auth req = .served ↔ Acceptable types db auth req := by
  simp only [protect_eq_iff (d := .served) (by decide) (by decide), validateToken_served,
    scopeInsufficient_false_iff _ _ hne, Acceptable, exists_and_left]

/-- every other request is refused with 401 or 403, and 403 exactly for insufficient scope of an
    otherwise valid token -/
theorem error_kind_mapping (types : List Str) (db : Str → Option Tok) (auth : Option Str)
    (req : Option (List Str)) :
    let d := protect types db auth req
    (d ≠ .served → status d = 401 ∨ status d = 403) ∧
    (d = .missingAuthorization ↔ (auth = none ∨ auth = some [])) ∧
    (d = .insufficientScope → ∃ a ty tok t, auth = some a ∧ splitNone1 a = some (ty, tok) ∧
        lower ty ∈ types ∧ db tok = some t ∧ t.expired = false ∧ t.revoked = false ∧
        scopeInsufficient t.scope req = true) ∧
    (d = .invalidToken → ∃ a ty tok, auth = some a ∧ splitNone1 a = some (ty, tok) ∧
        lower ty ∈ types ∧ (db tok = none ∨ ∃ t, db tok = some t ∧ (t.expired = true ∨ t.revoked = true))) := by
  intro d
  refine ⟨?_, ?_, ?_, ?_⟩
  · cases d <;> simp [status]
  · show protect types db auth req = .missingAuthorization ↔ _
    fun_cases protect types db auth req
    · simp
    next _ hE => simp [List.isEmpty_iff.mp hE]
    next _ hE _ => simpa using hE
    next _ hE _ tok _ _ =>
      have : validateToken (db tok) req ≠ .missingAuthorization := by fun_cases validateToken (db tok) req <;> simp
      simpa [this] using hE
    next _ hE _ _ _ _ => simpa using hE
  · intro h
    obtain ⟨a, ty, tok, ha, hsp, hty, hv⟩ := (protect_eq_iff (by decide) (by decide)).mp h
    obtain ⟨t, ht⟩ := validateToken_insufficient.mp hv
    exact ⟨a, ty, tok, t, ha, hsp, hty, ht⟩
  · intro h
    obtain ⟨a, ty, tok, ha, hsp, hty, hv⟩ := (protect_eq_iff (by decide) (by decide)).mp h
    exact ⟨a, ty, tok, ha, hsp, hty, validateToken_invalid.mp hv⟩

/-- no token that fails a condition is ever handed to the application: `served` implies the very
    token that was looked up is live -/
theorem rejected_token_never_current (types : List Str) (db : Str → Option Tok) (a : Str)
    (req : Option (List Str)) (ty tok : Str) (hsp : splitNone1 a = some (ty, tok))
    (hbad : db tok = none ∨ ∃ t, db tok = some t ∧ (t.expired = true ∨ t.revoked = true ∨
      scopeInsufficient t.scope req = true)) :
    protect types db (some a) req ≠ .served := by
  intro h
  obtain ⟨a', ty', tok', ha, hsp', -, hv⟩ := (protect_eq_iff (by decide) (by decide)).mp h
  cases ha
  cases hsp.symm.trans hsp'
  obtain ⟨tk, hdb, he, hr, hs⟩ := validateToken_served.mp hv
  rcases hbad with hn | ⟨t, ht, hb⟩
  · cases hn.symm.trans hdb
  · cases ht.symm.trans hdb
    rcases hb with hb | hb | hb
    · cases he.symm.trans hb
    · cases hr.symm.trans hb
    · cases hs.symm.trans hb

example : protect ["bearer".toList] (fun t => if t = "tok".toList then some ⟨false, false, some "a b".toList⟩ else none)
    (some "BeArer  tok".toList) (some ["c".toList, "b a".toList]) = .served := by decide +kernel

example : protect ["bearer".toList] (fun t => if t = "tok".toList then some ⟨false, false, some "a".toList⟩ else none)
    (some "Bearer tok".toList) (some ["a b".toList]) = .insufficientScope := by decide +kernel

end Props.C10
