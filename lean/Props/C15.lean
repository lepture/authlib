import Model.ClientEmit
import Lemmas.Percent
import Lemmas.Base64
/-
  C15 — what the client half emits, the server half reads back unchanged.
  The query, fragment and body theorems are corollaries of `parse_qsl ∘ urlencode = id` (Lemmas/Percent), the Basic
  and Bearer header theorems of the Base64 round trip (Lemmas/Base64) and of what `split(None, 1)` does to
  `scheme SP credentials` (proved here), for EVERY octet string in every position.
-/
namespace Props.C15
open Model Model.Percent Model.ClientEmit

/-- Adding protocol parameters to a query / fragment / form body never drops, reorders or alters
    the parameters already there: the decoded sequence is `old ++ new`. -/
theorem add_params_preserves_existing (existing : Bytes) (params : Params) :
    parseQsl (addParamsToQs existing params) = parseQsl existing ++ params :=
  parseQsl_urlencode _

/-- token request body: the server's form parser recovers grant_type, redirect_uri and every
    truthy keyword parameter (code, code_verifier, scope, username, …) unchanged and in order. -/
theorem token_body_roundtrip (gt body : Bytes) (redirect : Option Bytes) (kwargs : Params) :
    parseQsl (prepareTokenRequest gt body redirect kwargs) =
      parseQsl body ++ ([(s "grant_type", gt)] ++
        (match redirect with | some r => if r.isEmpty then [] else [(s "redirect_uri", r)] | none => []) ++
        kwargs.filter (fun p => !p.2.isEmpty)) :=
  add_params_preserves_existing _ _

/-- authorization URL: the server's query parser recovers exactly the parameters the client
    added (after whatever the URL already carried) -/
theorem grant_uri_roundtrip (q cid rt : Bytes) (redirect scope state : Option Bytes) (kw : Params) :
    parseQsl (prepareGrantQuery q cid rt redirect scope state kw) =
      parseQsl q ++ grantParams cid rt redirect scope state kw :=
  add_params_preserves_existing _ _

theorem post_roundtrip (body cid secret : Bytes) :
    parseQsl (encodeSecretPost body cid secret) =
      parseQsl body ++ [(s "client_id", cid), (s "client_secret", secret)] :=
  add_params_preserves_existing _ _

theorem none_roundtrip (body cid : Bytes) :
    parseQsl (encodeNone body cid) = parseQsl body ++ [(s "client_id", cid)] :=
  add_params_preserves_existing _ _

theorem bearer_query_body_roundtrip (existing tok : Bytes) :
    parseQsl (bearerQueryOrBody existing tok) = parseQsl existing ++ [(s "access_token", tok)] :=
  add_params_preserves_existing _ _

/-- white space lies below and above the base64 alphabet -/
theorem val_of_isWs {c : UInt8} (h : isWs c = true) : Base64.val false c = none := by
  have hc : c.toNat ≤ 32 ∨ 0x85 ≤ c.toNat := by
    simp only [isWs, Bool.or_eq_true, Bool.and_eq_true, decide_eq_true_eq, UInt8.le_iff_toNat_le,
      ← UInt8.toNat_inj, UInt8.toNat_ofNat] at h
    omega
  simp only [Base64.val]
  rw [if_neg (by omega), if_neg (by omega), if_neg (by omega), if_neg (by omega), if_neg (by omega),
    if_neg (by simp), if_neg (by simp)]

theorem stdEncode_no_ws (b : Bytes) : ∀ c ∈ Base64.stdEncode b, isWs c = false := by
  intro c h
  unfold Base64.stdEncode at h
  simp only [List.mem_append, List.mem_replicate] at h
  rcases h with h | ⟨_, rfl⟩
  · exact Bool.eq_false_iff.mpr fun hw => Base64.not_mem_encode (val_of_isWs hw) b h
  · decide

theorem takeWord_noWs (w : Bytes) (hw : ∀ c ∈ w, isWs c = false) : takeWord w = (w, []) := by
  induction w with
  | nil => rfl
  | cons c w ih =>
    have hc := hw c (by simp)
    simp [takeWord, hc, ih (fun d hd => hw d (by simp [hd]))]

theorem dropWs_noWs (w : Bytes) (c : UInt8) (hc : isWs c = false) : dropWs (c :: w) = c :: w := by
  simp [dropWs, hc]

theorem takeWord_append (w : Bytes) (hw : ∀ c ∈ w, isWs c = false) (c : UInt8) (hc : isWs c = true) (t : Bytes) :
    takeWord (w ++ c :: t) = (w, c :: t) := by
  induction w with
  | nil => simp [takeWord, hc]
  | cons d w ih =>
    have hd := hw d (by simp)
    simp [takeWord, hd, ih (fun e he => hw e (by simp [he]))]

theorem dropWs_head (w : Bytes) (hne : w ≠ []) (hw : ∀ c ∈ w, isWs c = false) (t : Bytes) :
    dropWs (w ++ t) = w ++ t := by
  cases w with
  | nil => exact absurd rfl hne
  | cons d w => exact dropWs_noWs _ d (hw d List.mem_cons_self)

theorem splitNone1_word_sp_any (w rest : Bytes) (hwne : w ≠ []) (hw : ∀ c ∈ w, isWs c = false)
    (c0 : UInt8) (hc0 : isWs c0 = false) :
    splitNone1 (w ++ 32 :: c0 :: rest) = some (w, c0 :: rest) := by
  unfold splitNone1
  rw [dropWs_head w hwne hw, takeWord_append w hw 32 (by decide)]
  have h1 : dropWs (32 :: c0 :: rest) = c0 :: rest := by
    rw [dropWs, if_pos (by decide), dropWs_noWs _ _ hc0]
  simp only [h1]
  have a : w.isEmpty = false := by simpa using hwne
  simp [a]

theorem splitNone1_word_sp_rest (w rest : Bytes) (hwne : w ≠ []) (hw : ∀ c ∈ w, isWs c = false)
    (hrne : rest ≠ []) (hr : ∀ c ∈ rest, isWs c = false) :
    splitNone1 (w ++ 32 :: rest) = some (w, rest) := by
  cases rest with
  | nil => exact absurd rfl hrne
  | cons c0 rest => exact splitNone1_word_sp_any w rest hwne hw c0 (hr c0 (by simp))

theorem stdEncode_ne_nil (b : Bytes) (h : b ≠ []) : Base64.stdEncode b ≠ [] :=
  fun e => h (Base64.stdEncode_injective (b := []) e)

/-- **HTTP Basic round trip** under the property's own side conditions (credentials are ASCII text
    that is valid UTF-8, no `%`, no `:` in the identifier): the server recovers exactly the
    identifier and secret the client encoded. -/
theorem basic_roundtrip (cid secret : Bytes) (hcolon : (58 : UInt8) ∉ cid)
    (hp1 : (37 : UInt8) ∉ cid) (hp2 : (37 : UInt8) ∉ secret)
    (hutf : utf8Valid (cid ++ 58 :: secret) = true) :
    extractBasic (some (encodeSecretBasic cid secret)) = (some cid, some secret) := by
  have hb : s "Basic " = s "Basic" ++ [32] := by decide +kernel
  have hsplit : splitNone1 (s "Basic" ++ 32 :: Base64.stdEncode (cid ++ 58 :: secret)) =
      some (s "Basic", Base64.stdEncode (cid ++ 58 :: secret)) :=
    splitNone1_word_sp_rest (s "Basic") _ (by decide +kernel) (by decide +kernel)
      (stdEncode_ne_nil _ (by simp)) (stdEncode_no_ws _)
  have hcont : (s "Basic" ++ 32 :: Base64.stdEncode (cid ++ 58 :: secret)).contains 32 = true :=
    List.contains_iff_mem.mpr (List.mem_append_right _ List.mem_cons_self)
  have hempty : (s "Basic" ++ 32 :: Base64.stdEncode (cid ++ 58 :: secret)).isEmpty = false := by simp
  have hlow : (s "Basic").map lowerB = s "basic" := by decide +kernel
  have hdec : Base64.stdDecode (Base64.stdEncode (cid ++ 58 :: secret)) = some (cid ++ 58 :: secret) :=
    Base64.a2b_stdEncode _
  simp only [extractBasic, encodeSecretBasic, hb, List.append_assoc, List.singleton_append, hcont, hempty, hsplit, hlow,
    hdec, hutf, Bool.not_true, Bool.or_false, bne_self_eq_false, Bool.false_eq_true, if_false]
  rw [split1_append 58 cid secret hcolon]
  simp only [unquote_of_not_mem cid hp1, unquote_of_not_mem secret hp2]

/-- bearer token in the header: the resource server's `split(None, 1)` recovers a token whose first character is not
    white space unchanged, whatever it contains after it (inner or trailing white space too) -/
theorem bearer_header_roundtrip_general (c0 : UInt8) (rest : Bytes) (hc0 : isWs c0 = false) :
    splitNone1 (bearerHeader (c0 :: rest)) = some (s "Bearer", c0 :: rest) := by
  unfold bearerHeader
  have hs : s "Bearer " = s "Bearer" ++ [32] := by decide +kernel
  rw [hs, List.append_assoc]
  exact splitNone1_word_sp_any (s "Bearer") rest (by decide +kernel) (by decide +kernel) c0 hc0

/-- in particular for tokens that are non-empty and contain no whitespace, i.e. RFC 6750 b64token -/
theorem bearer_header_roundtrip (tok : Bytes) (hne : tok ≠ []) (hws : ∀ c ∈ tok, isWs c = false) :
    splitNone1 (bearerHeader tok) = some (s "Bearer", tok) := by
  cases tok with
  | nil => exact absurd rfl hne
  | cons c0 rest => exact bearer_header_roundtrip_general c0 rest (hws c0 (by simp))

theorem lookup_reverse_append_single (ps : Params) (k v : Bytes) :
    (ps ++ [(k, v)]).reverse.lookup k = some v := by
  simp

theorem dictGet_added_pair (existing k₁ v₁ k₂ v₂ : Bytes) (h₁ : v₁ ≠ []) (h₂ : v₂ ≠ []) (hk : k₁ ≠ k₂) :
    dictGet false (addParamsToQs existing [(k₁, v₁), (k₂, v₂)]) k₁ = some v₁ ∧
    dictGet false (addParamsToQs existing [(k₁, v₁), (k₂, v₂)]) k₂ = some v₂ := by
  have e₁ : v₁.isEmpty = false := by simpa using h₁
  have e₂ : v₂.isEmpty = false := by simpa using h₂
  have hne : (k₁ == k₂) = false := by simpa using hk
  simp [dictGet, add_params_preserves_existing, e₁, e₂, List.lookup, hne]

/-- authorization-code response: whatever query the registered redirect URI already had, the
    client reads back the code the server appended (codes are non-empty) and the state -/
theorem code_response_roundtrip (existing code state : Bytes) (hc : code ≠ []) (hs : state ≠ [])
    (hks : s "code" ≠ s "state") :
    parseCodeResponse (addParamsToQs existing [(s "code", code), (s "state", state)]) (some state)
      = .ok (code, some state) := by
  obtain ⟨h1, h2⟩ := dictGet_added_pair existing _ _ _ _ hc hs hks
  simp [parseCodeResponse, h1, h2]

/-- a differing state is reported as a mismatch -/
theorem state_mismatch_reported (existing code state expected : Bytes) (hc : code ≠ []) (hs : state ≠ [])
    (he : expected ≠ []) (hdiff : state ≠ expected) (hks : s "code" ≠ s "state") :
    parseCodeResponse (addParamsToQs existing [(s "code", code), (s "state", state)]) (some expected)
      = .error .mismatchingState := by
  obtain ⟨h1, h2⟩ := dictGet_added_pair existing _ _ _ _ hc hs hks
  simp [parseCodeResponse, h1, h2, he, hdiff]

theorem code_ne_state : s "code" ≠ s "state" := by decide +kernel

example : extractBasic (some (encodeSecretBasic (s "app") (s "p:w d"))) = (some (s "app"), some (s "p:w d")) := by
  decide +kernel

end Props.C15
