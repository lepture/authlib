import Props.C20Keys
import Model.ErrorResponse
import Generated.Errors
import Lemmas.Utf8
/-
  C20 — protocol errors become well-formed responses. Over the regenerated tables (Generated/Errors.lean: every
  OAuth2Error subclass, every literal description, every site where a description is computed): codes registered,
  statuses fitting, descriptions inside RFC 6749's character set (class-level texts bypass the constructor check).
  Over the model of the error path (Model/ErrorResponse.lean): `response_wellformed`, `no_crash_partial`.
  PARTIAL: that an endpoint body raises nothing but OAuth2Error is not a theorem; the hostile-input oracle run searches
  for such an escape, and the reviewed list of computed descriptions bounds where request data reaches the check.
-/
namespace Props.C20
open Model.ErrorResponse

def rfc6749Ranges : List (Nat × Nat) := [(0x20, 0x21), (0x23, 0x5B), (0x5D, 0x7E)]

/-- error codes registered for OAuth 2 provider responses: RFC 6749 §4.1.2.1 / §5.2, RFC 6750 §3.1, RFC 7009 §2.2.1,
    RFC 7591 §3.2.2, RFC 8628 §3.5, OpenID Connect Core §3.1.2.6 and Registration §3.3, and the library's own
    insecure_transport / missing_authorization -/
def registeredCodes : List String :=
  ["invalid_request", "invalid_client", "invalid_grant", "unauthorized_client", "unsupported_grant_type", "invalid_scope", "access_denied",
   "unsupported_response_type", "server_error", "temporarily_unavailable", "invalid_token", "insufficient_scope", "unsupported_token_type",
   "invalid_redirect_uri", "invalid_client_metadata", "invalid_software_statement", "unapproved_software_statement", "authorization_pending",
   "slow_down", "expired_token", "interaction_required", "login_required", "account_selection_required", "consent_required",
   "invalid_request_uri", "invalid_request_object", "request_not_supported", "request_uri_not_supported", "registration_not_supported",
   "missing_authorization", "insecure_transport"]

/-- the error classes a provider can answer with: abstract bases (no code) and the client-side `…Exception` classes
    excluded -/
def providerClasses : List ErrClass :=
  (Generated.Errors.classes.filter fun c => c.2.1 != "" && !c.1.endsWith "Exception").map fun c => ⟨c.2.1, c.2.2.1, c.2.2.2⟩

def statusFits (c : ErrClass) : Bool :=
  400 ≤ c.status && c.status < 500 &&
  (c.code != "invalid_token" || c.status == 401) &&
  (c.code != "missing_authorization" || c.status == 401) &&
  (c.code != "insufficient_scope" || c.status == 403) &&
  (c.code != "invalid_client" || c.status == 400 || c.status == 401)

theorem ranges_are_rfc6749 : Generated.Errors.validRanges = rfc6749Ranges := rfl

/-- `descOk` on the UTF-8 bytes instead of the characters: the form in which the sweeps over the regenerated tables are
    decided (why: Lemmas/Utf8.lean); for ranges below 128 the two agree -/
def bytesOk (r : List (Nat × Nat)) (s : String) : Bool :=
  s.toByteArray.data.toList.all fun b => r.any fun p => p.1 ≤ b.toNat && b.toNat ≤ p.2

theorem descOk_eq_bytesOk (r : List (Nat × Nat)) (hr : ∀ p ∈ r, p.2 < 128) (s : String) :
    descOk r s = bytesOk r s := by
  have hq : ∀ n, (∃ p ∈ r, p.1 ≤ n ∧ n ≤ p.2) → n < 128 := fun n ⟨p, hp, _, hn⟩ => Nat.lt_of_le_of_lt hn (hr p hp)
  rw [Bool.eq_iff_iff]
  simp only [descOk, inRanges, bytesOk, List.all_eq_true, List.any_eq_true, Bool.and_eq_true, decide_eq_true_eq]
  exact (String.forall_bytes_iff hq s).symm

theorem descOk_rfc6749 : descOk rfc6749Ranges = bytesOk rfc6749Ranges :=
  funext (descOk_eq_bytesOk _ (by decide))

theorem static_descriptions_in_charset :
    Generated.Errors.staticDescriptions.all (descOk rfc6749Ranges) = true := by
  rw [descOk_rfc6749]
  decide +kernel

/-- everything said of `providerClasses`, decided together: the kernel then computes the table (`String.endsWith` on
    every class name) once (DESIGN §3.1) -/
theorem provider_classes : providerClasses.length > 20 ∧ ∀ c ∈ providerClasses,
    registeredCodes.contains c.code = true ∧ statusFits c = true ∧ bytesOk rfc6749Ranges c.classDesc = true := by
  decide +kernel

theorem provider_class_wellformed : ∀ c ∈ providerClasses,
    registeredCodes.contains c.code = true ∧ statusFits c = true ∧ bytesOk rfc6749Ranges c.classDesc = true :=
  provider_classes.2

theorem class_descriptions_in_charset :
    providerClasses.all (fun c => descOk rfc6749Ranges c.classDesc) = true := by
  rw [descOk_rfc6749]
  exact List.all_eq_true.mpr fun c hc => (provider_class_wellformed c hc).2.2

theorem error_codes_registered : providerClasses.all (fun c => registeredCodes.contains c.code) = true :=
  List.all_eq_true.mpr fun c hc => (provider_class_wellformed c hc).1

theorem statuses_fit : providerClasses.all statusFits = true :=
  List.all_eq_true.mpr fun c hc => (provider_class_wellformed c hc).2.1

/-- the sites where an OAuth 2 error description is computed rather than literal — each reviewed:
    configuration values (methods, GRANT_TYPE), a response_type / parameter name already matched
    against a fixed set, or a JOSE / claims error text that is sanitised (`_error_description`) or
    names a fixed claim -/
def reviewedDynamicSites : List String :=
  ["oauth2/rfc6749/authenticate_client.py: f\"The client cannot authenticate with methods: {methods}\"",
   "oauth2/rfc6749/grants/authorization_code.py: f\"The client is not authorized to use 'grant_type={self.GRANT_TYPE}'\"",
   "oauth2/rfc6749/grants/authorization_code.py: f\"The client is not authorized to use 'response_type={response_type}'\"",
   "oauth2/rfc6749/grants/base.py: f\"Multiple '{param}' in request.\"",
   "oauth2/rfc6749/grants/client_credentials.py: f\"The client is not authorized to use 'grant_type={self.GRANT_TYPE}'\"",
   "oauth2/rfc6749/grants/implicit.py: f\"The client is not authorized to use 'response_type={response_type}'\"",
   "oauth2/rfc6749/grants/refresh_token.py: f\"The client is not authorized to use 'grant_type={self.GRANT_TYPE}'\"",
   "oauth2/rfc6749/grants/resource_owner_password_credentials.py: f\"The client is not authorized to use 'grant_type={self.GRANT_TYPE}'\"",
   "oauth2/rfc7523/client.py: _error_description(e.description)",
   "oauth2/rfc7523/client.py: f\"The client cannot authenticate with method: {self.CLIENT_AUTH_METHOD}\"",
   "oauth2/rfc7523/jwt_bearer.py: _error_description(e.description)",
   "oauth2/rfc7523/jwt_bearer.py: f\"The client is not authorized to use 'grant_type={self.GRANT_TYPE}'\"",
   "oauth2/rfc7591/endpoint.py: error.description",
   "oauth2/rfc7592/endpoint.py: error.description",
   "oauth2/rfc8628/device_code.py: f\"The client is not authorized to use 'response_type={self.GRANT_TYPE}'\""]

theorem dynamic_description_sites_reviewed : Generated.Errors.dynamicDescriptionSites = reviewedDynamicSites := rfl

theorem json_responses_not_cacheable :
    Generated.Errors.defaultJsonHeaders.contains ("Cache-Control", "no-store") = true ∧
    Generated.Errors.defaultJsonHeaders.contains ("Pragma", "no-cache") = true := by decide +kernel

theorem construct_ok {r : List (Nat × Nat)} {c : ErrClass} {arg : Option String} {d : String}
    (h : construct r c arg = .ok d) :
    (arg = none ∧ d = c.classDesc) ∨ (arg = some d ∧ (d = "" ∨ descOk r d = true)) := by
  revert h
  fun_cases construct r c arg <;> intro h <;> cases h
  · exact .inl ⟨rfl, rfl⟩
  next hc => exact .inr ⟨rfl, by simpa [Decidable.or_iff_not_imp_left] using hc⟩

/-- **every response built from a protocol error is well-formed**: a registered code, a fitting 4xx
    status, and a description (when there is one) inside the RFC 6749 character set -/
theorem response_wellformed (c : ErrClass) (hc : c ∈ providerClasses) (arg : Option String) (d : String) (hs : List (String × String))
    (h : construct rfc6749Ranges c arg = .ok d) :
    registeredCodes.contains (respond c d hs).error = true ∧ statusFits c = true ∧ (respond c d hs).status = c.status ∧
    ∀ t, (respond c d hs).description = some t → descOk rfc6749Ranges t = true := by
  obtain ⟨hreg, hst, hcd⟩ := provider_class_wellformed c hc
  refine ⟨hreg, hst, rfl, fun t ht => ?_⟩
  obtain ⟨hne, ⟨⟩⟩ := Option.ite_none_right_eq_some.mp ht
  rcases construct_ok h with ⟨_, rfl⟩ | ⟨_, rfl | hok⟩
  · exact descOk_rfc6749 ▸ hcd
  · exact absurd rfl (bne_iff_ne.mp hne)
  · exact hok

/-- **no crash on the modelled error path**: when the endpoint body raises nothing but OAuth 2 errors
    whose description is absent, one of the library's literals, or already inside the character set,
    the endpoint returns a response (well-formed by the theorem above) and never an exception -/
theorem no_crash_partial (hs : List (String × String)) (c : ErrClass) (arg : Option String)
    (harg : arg = none ∨ (∃ d, arg = some d ∧ (d ∈ Generated.Errors.staticDescriptions ∨ descOk rfc6749Ranges d = true))) :
    ∃ r, endpoint rfc6749Ranges hs (.error (.oauth c arg)) = .ok r := by
  rcases harg with rfl | ⟨d, rfl, hd⟩
  · exact ⟨_, rfl⟩
  · have hok : descOk rfc6749Ranges d = true := hd.elim (List.all_eq_true.mp static_descriptions_in_charset d) id
    exact ⟨respond c d hs, by simp [endpoint, construct, hok]⟩

/-- the complement, stated: a description argument with a forbidden character makes the error
    constructor itself raise — the request leaves the endpoint as ValueError (this is how a raw request
    value embedded in a description became a crash; replayed on the real code by the oracle) -/
theorem forbidden_character_crashes (hs : List (String × String)) (c : ErrClass) (d : String)
    (hne : d ≠ "") (hbad : descOk rfc6749Ranges d = false) :
    endpoint rfc6749Ranges hs (.error (.oauth c (some d))) = .error "ValueError" := by
  have : (d != "") = true := by simpa using hne
  simp [endpoint, construct, hbad, this]

example : descOk rfc6749Ranges "Redirect URI \"x is not supported" = false := by
  rw [descOk_rfc6749]
  decide +kernel

example : providerClasses.length > 20 := provider_classes.1

end Props.C20
