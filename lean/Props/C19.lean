import Model.Fault
import Generated.Flows
import Lemmas.Provider
import Lemmas.OAuth1Flow
/-
  C19 — a storage fault in the middle of a request.  Script discipline (`orderOk`) implies, for EVERY fault position k,
  that the exchanged credential is consumed only after the replacement was stored and that nothing is written once the
  response has been built; the scripts traced from the current code (Generated/Flows.lean) satisfy it and use only
  callbacks the model classifies.  The store after a faulted request is `stepFault`, the state machines of C06/C09/C12
  masked by the completed events; the real provider is compared with it at every fault position and through the
  retries by the correspondence check.
-/
namespace Props.C19
open Model Model.Fault

def progressFrom (p : Progress) (ks : List Kind) : Progress := ks.foldl Progress.add p

theorem progressK_eq (ks : List Kind) : progressK ks = progressFrom {} ks := rfl

/-- writes a progress summary records, apart from the response flag -/
def writes (p : Progress) : Nat × Bool × Bool × Bool × Bool := (p.gens, p.stored, p.consumed, p.destroyed, p.touched)

def sameWrites (p q : Progress) : Prop := writes p = writes q

theorem orderOkFrom_cons (p : Progress) (a : Kind) (r : List Kind)
    (h : orderOkFrom p.stored p.responded (a :: r) = true) :
    orderOkFrom (p.add a).stored (p.add a).responded r = true ∧
    ((p.consumed = true → p.stored = true) → (p.add a).consumed = true → (p.add a).stored = true) ∧
    (p.responded = true → (p.add a).responded = true ∧ writes (p.add a) = writes p) := by
  revert h
  cases a <;> simp +contextual [orderOkFrom, Progress.add, writes]

theorem orderOkFrom_prefix (ks : List Kind) (p : Progress) (k : Nat)
    (h : orderOkFrom p.stored p.responded ks = true) (hp : p.consumed = true → p.stored = true) :
    (progressFrom p (ks.take k)).consumed = true → (progressFrom p (ks.take k)).stored = true := by
  induction ks generalizing p k with
  | nil =>
    rw [List.take_nil]
    exact hp
  | cons a r ih =>
    cases k with
    | zero => exact hp
    | succ k =>
      obtain ⟨h1, h2, _⟩ := orderOkFrom_cons p a r h
      exact ih (p.add a) k h1 (h2 hp)

/-- **for every fault position**: in a disciplined script the old credential is consumed only after
    the replacement is stored -/
theorem orderOk_consume_only_after_store (ks : List Kind) (h : orderOk ks = true) (k : Nat) :
    (progressK (ks.take k)).consumed = true → (progressK (ks.take k)).stored = true :=
  orderOkFrom_prefix ks {} k h nofun

theorem orderOkFrom_no_write_after_respond (ks : List Kind) (p : Progress)
    (hr : p.responded = true) (h : orderOkFrom p.stored p.responded ks = true) : sameWrites (progressFrom p ks) p := by
  induction ks generalizing p with
  | nil => rfl
  | cons a r ih =>
    obtain ⟨h1, _, h3⟩ := orderOkFrom_cons p a r h
    exact (ih (p.add a) (h3 hr).1 h1).trans (h3 hr).2

theorem orderOkFrom_respond_last (ks : List Kind) (p : Progress) (k : Nat)
    (h : orderOkFrom p.stored p.responded ks = true) (hk : (progressFrom p (ks.take k)).responded = true) :
    sameWrites (progressFrom p ks) (progressFrom p (ks.take k)) := by
  induction ks generalizing p k with
  | nil =>
    rw [List.take_nil]
    rfl
  | cons a r ih =>
    cases k with
    | zero => exact orderOkFrom_no_write_after_respond (a :: r) p hk h
    | succ k => exact ih (p.add a) k (orderOkFrom_cons p a r h).1 hk

/-- nothing is written after the response was built (script level, every prefix) -/
theorem orderOk_respond_last (ks : List Kind) (h : orderOk ks = true) (k : Nat)
    (hk : (progressK (ks.take k)).responded = true) : sameWrites (progressK ks) (progressK (ks.take k)) :=
  orderOkFrom_respond_last ks {} k h hk

/-- the three facts about the traced table, decided together: the kernel then classifies the callback names (`kindOf`,
    a chain of string comparisons per event) once (DESIGN §3.1) -/
theorem generated_flows_table :
    (∀ f ∈ Generated.Flows.flows, orderOk (f.2.map kindOf) = true) ∧
    (["authorize_code", "redeem_code", "implicit", "password", "client_credentials", "refresh", "device_authorize",
      "device_poll_token", "revoke", "oauth1_initiate", "oauth1_authorize", "oauth1_exchange", "oauth1_resource"].all
      (fun n => Generated.Flows.flows.any (fun f => f.1 == n)) = true) ∧
    (["redeem_code", "refresh", "oauth1_exchange"].all
      (fun n => Generated.Flows.flows.any (fun f => f.1 == n && (progress f.2).consumed && (progress f.2).stored)) = true) := by
  decide +kernel

/-- every traced flow uses only classified callbacks and obeys the order discipline -/
theorem generated_flows_ordered :
    ∀ f ∈ Generated.Flows.flows, orderOk (f.2.map kindOf) = true := generated_flows_table.1

/-- **For every flow of the current code and every fault position k**: if the fault left the exchanged
    credential (authorization code, refresh token, temporary credential) consumed, the replacement had
    been stored. -/
theorem generated_flow_consume_only_after_store (f : String × List String) (hf : f ∈ Generated.Flows.flows) (k : Nat) :
    (progress (f.2.take k)).consumed = true → (progress (f.2.take k)).stored = true := by
  have h := orderOk_consume_only_after_store (f.2.map kindOf) (generated_flows_ordered f hf) k
  simpa [progress, List.map_take] using h

/-- **… and the response is the last thing built**: once `respond` happened, every write of the flow
    has happened — a response never refers to a credential whose persistence is still to come. -/
theorem generated_flow_respond_last (f : String × List String) (hf : f ∈ Generated.Flows.flows) (k : Nat)
    (hk : (progress (f.2.take k)).responded = true) : sameWrites (progress f.2) (progress (f.2.take k)) := by
  have h := orderOk_respond_last (f.2.map kindOf) (generated_flows_ordered f hf) k
    (by simpa [progress, List.map_take] using hk)
  simpa [progress, List.map_take] using h

/-- the flows the statement names are all present in the traced table -/
theorem generated_flows_cover :
    ["authorize_code", "redeem_code", "implicit", "password", "client_credentials", "refresh", "device_authorize",
     "device_poll_token", "revoke", "oauth1_initiate", "oauth1_authorize", "oauth1_exchange", "oauth1_resource"].all
      (fun n => Generated.Flows.flows.any (fun f => f.1 == n)) = true := generated_flows_table.2.1

/-- the exchanging flows really contain a consume step (the theorem above is not vacuous for them) -/
theorem generated_exchanges_consume :
    ["redeem_code", "refresh", "oauth1_exchange"].all
      (fun n => Generated.Flows.flows.any (fun f => f.1 == n && (progress f.2).consumed && (progress f.2).stored)) = true :=
  generated_flows_table.2.2

section provider
open Model.Provider

/-- nothing completed ⇒ the store is exactly what it was (`userDecide` and `advance` write `grants` and `now`, which
    `stepFault` does not mask) -/
theorem provider_fault_before_any_write (s : Store) (op : Op) (hop : ∀ a b c, op ≠ .userDecide a b c) (hop' : ∀ d, op ≠ .advance d) :
    stepFault s op {} = s := by
  have h := step_effect s op
  -- with nothing completed every mask selects `s`
  simp only [stepFault, Bool.or_self, Bool.false_eq_true, if_false, List.append_nil, Nat.add_zero]
  generalize (step s op).1 = s' at h
  cases h
  case userDecide a b c => exact absurd rfl (hop a b c)
  case advance d => exact absurd rfl (hop' d)
  -- every other effect differs from `s` in masked fields only; these two leave open which mask `codes` is under
  case refused | issue => split <;> rfl
  all_goals rfl

/-- replacement not stored ⇒ no new token, code or device credential exists -/
theorem provider_fault_unstored_nothing_new (s : Store) (op : Op) (p : Progress) (hp : p.stored = false) :
    (stepFault s op p).tokens.length = s.tokens.length ∧ (stepFault s op p).devices = s.devices ∧
    (stepFault s op p).codes.length ≤ s.codes.length := by
  have h := step_effect s op
  have hg := h.tokens_length_le
  simp only [stepFault, hp, Bool.false_eq_true, if_false, List.append_nil]
  generalize (step s op).1 = s' at h hg
  refine ⟨?_, trivial, ?_⟩
  · split
    · rw [List.length_take]
      exact Nat.min_eq_left hg
    · rfl
  · split
    next =>
      -- an `authorize`: its code is under the mask `stored`
      exact Nat.le_refl _
    next hna =>
      -- no other request adds a code
      split
      · cases h
        case authorize => exact (hna _ _ _ _ _ _ _ rfl).elim
        case redeem => exact List.length_filter_le _ _
        all_goals exact Nat.le_refl _
      · exact Nat.le_refl _

/-- exchanged credential not consumed (and nothing revoked) ⇒ every token and code that was in the
    store is still there, unchanged -/
theorem provider_fault_unconsumed_kept (s : Store) (op : Op) (p : Progress) (hc : p.consumed = false) (hd : p.destroyed = false) :
    (∀ t ∈ s.tokens, t ∈ (stepFault s op p).tokens) ∧ (∀ c ∈ s.codes, c ∈ (stepFault s op p).codes) := by
  have h := step_effect s op
  simp only [stepFault, hc, hd, Bool.or_self, Bool.false_eq_true, if_false]
  generalize (step s op).1 = s' at h
  refine ⟨fun t ht => List.mem_append_left _ ht, fun c hcm => ?_⟩
  split
  · -- an `authorize` removes no code
    split
    · cases h
      case authorize => exact List.mem_append_left _ hcm
      all_goals exact hcm
    · exact hcm
  · -- the codes of any other request are under the mask `consumed`
    exact hcm

/-- everything completed ⇒ the faulted-step model is the step itself -/
theorem provider_fault_after_everything (s : Store) (op : Op) :
    stepFault s op { gens := (step s op).1.fresh - s.fresh, stored := true, consumed := true, destroyed := true, touched := true }
      = (step s op).1 := by
  have hf := (step_effect s op).fresh_le
  simp only [stepFault, Bool.or_self, if_true, List.take_append_drop, Nat.add_sub_cancel' hf]
  generalize (step s op).1 = s'
  split <;> rfl

end provider

section oauth1
open Model.OAuth1Flow

theorem oauth1_fault_before_any_write (s : Store) (op : Op) (hop : ∀ d, op ≠ .advance d) :
    Model.OAuth1Flow.stepFault s op {} = s := by
  have h := step_effect s op
  simp only [Model.OAuth1Flow.stepFault, Bool.false_eq_true, if_false, Nat.add_zero]
  generalize (step s op).1 = s' at h
  cases h
  case advance d => exact absurd rfl (hop d)
  -- as for the OAuth 2 provider; these two leave open which masks `nonces` and `temps` are under
  case refused | nonce => cases op <;> rfl
  all_goals rfl

theorem oauth1_fault_unstored_nothing_new (s : Store) (op : Op) (p : Progress) (hp : p.stored = false) :
    (Model.OAuth1Flow.stepFault s op p).creds = s.creds :=
  if_neg (hp ▸ Bool.false_ne_true)

theorem oauth1_fault_unconsumed_kept (s : Store) (client : Option String) (token verifier : Option Ref) (sg : Sig) (p : Progress)
    (hc : p.consumed = false) :
    (Model.OAuth1Flow.stepFault s (.exchange client token verifier sg) p).temps = s.temps :=
  if_neg (hc ▸ Bool.false_ne_true)

end oauth1

end Props.C19
