import Props.C06Pkce
import Lemmas.Provider
import Lemmas.SingleUse
import Lemmas.List
/-
  C06 — authorization and device codes over every history: a token is issued for a code only
  under the statement's conditions (step-level characterisation), and each code yields at most
  one token (invariant over all operation sequences).
-/
namespace Props.C06
open Model Model.Provider

/-- when is PKCE satisfied, in the statement's words -/
def PkceSatisfied (s : Store) (m : String) (rec : CodeRec) (verifier : Option String) : Prop :=
  (truthyS rec.challenge = true ∨ truthyS verifier = true ∨ (s.pkceRequired = true ∧ m = "none")) →
    truthyS verifier = true ∧ verifierWellFormed (verifier.getD "") = true ∧
    pkceMatches rec.method (verifier.getD "") (rec.challenge.getD "") = some true

theorem pkceCheck_none {s : Store} {m : String} {rec : CodeRec} {verifier : Option String}
    (h : pkceCheck s m rec verifier = none) : PkceSatisfied s m rec verifier := by
  revert h
  fun_cases pkceCheck s m rec verifier <;> intro h <;> cases h
  next hreq hnone =>
    intro h
    simp only [Bool.and_eq_true, Bool.not_eq_true', beq_iff_eq] at hreq hnone
    rcases h with h | h | h
    · simp [hnone.1] at h
    · simp [hnone.2] at h
    · exact absurd ⟨h, hnone.2⟩ hreq
  next hv hw hm =>
    exact fun _ => ⟨by simpa using hv, by simpa using hw, hm⟩

/-- **Step-level statement for codes.** If the token request is accepted, then the presented code
    is in the store (i.e. was issued by this server and not yet consumed), belongs to the
    authenticated client, has not expired, the redirect URI is identical to the one sent at
    authorization (when one was sent), and PKCE is satisfied. -/
theorem redeemCheck_ok_spec (s : Store) (auth : Auth) (code : Option Ref) (redirect verifier : Option String)
    (c : Client) (m : String) (rec : CodeRec) (h : redeemCheck s auth code redirect verifier = .ok (c, m, rec)) :
    authClient s auth allMethods = some (c, m) ∧ code = some (.code rec.n) ∧ rec ∈ s.codes ∧ rec.client = c.id ∧
    ¬ (rec.authTime + 300 < s.now) ∧ (truthyS rec.redirect = true → redirect = rec.redirect) ∧
    PkceSatisfied s m rec verifier := by
  revert h
  fun_cases redeemCheck s auth code redirect verifier <;> intro h <;> cases h
  next ref _ ha hr hf hp =>
    cases ref with
    | code n =>
      have hq := List.find?_some hf
      simp only [Bool.and_eq_true, beq_iff_eq, Bool.not_eq_true', decide_eq_false_iff_not] at hq
      exact ⟨ha, by rw [hq.1.1], List.mem_of_find?_eq_some hf, hq.1.2, hq.2, fun ht => by simpa [ht] using hr,
        pkceCheck_none hp⟩
    | _ => exact nomatch (hf : none = some rec)

theorem err_access (st : Nat) (e : String) : (err st e).access = none := rfl

theorem pkceCheck_some_err {s : Store} {m : String} {rec : CodeRec} {v : Option String} {e : Out}
    (h : pkceCheck s m rec v = some e) : ∃ st msg, e = err st msg := by
  revert h
  fun_cases pkceCheck s m rec v <;> intro h <;> cases h
  all_goals exact ⟨_, _, rfl⟩

theorem redeemCheck_error_err {s : Store} {auth : Auth} {code : Option Ref} {redirect verifier : Option String}
    {e : Out} (h : redeemCheck s auth code redirect verifier = .error e) : ∃ st msg, e = err st msg := by
  revert h
  fun_cases redeemCheck s auth code redirect verifier <;> intro h <;> cases h
  any_goals exact ⟨_, _, rfl⟩
  exact pkceCheck_some_err ‹_›

/-- a token response to a redeem request exists only when `redeemCheck` succeeded; then the code is
    consumed and the token carries the approving user and the authenticated client -/
theorem redeem_token_implies (s : Store) (auth : Auth) (code : Option Ref) (redirect verifier : Option String)
    (a : Nat) (h : (step s (.redeem auth code redirect verifier)).2.access = some a) :
    ∃ c m rec, redeemCheck s auth code redirect verifier = .ok (c, m, rec) ∧
      (∀ r ∈ (step s (.redeem auth code redirect verifier)).1.codes, r.n ≠ rec.n) ∧
      ∃ t ∈ (step s (.redeem auth code redirect verifier)).1.tokens,
        t.access = a ∧ t.prov = .code rec.n ∧ t.user = some rec.user ∧ t.client = c.id := by
  revert h
  unfold step
  split
  next hc =>
    obtain ⟨st, msg, rfl⟩ := redeemCheck_error_err hc
    nofun
  next c m rec hc =>
    intro h
    exact ⟨c, m, rec, hc, fun r hr => by simpa using (List.mem_filter.mp hr).2, _,
      List.mem_append_right _ (List.mem_singleton_self _), Option.some.inj h, mkToken_prov .., mkToken_user ..,
      mkToken_client ..⟩

def provCode (t : TokRec) : Option Nat := match t.prov with | .code k => some k | _ => none

/-- Single use as an invariant: the code a token was born from (`provCode`) is below the allocation counter, is no
    longer pending, and is shared with no other token — `SingleUse` of the pending and the redeemed code numbers
    (`inv_iff`). -/
structure Inv (s : Store) : Prop where
  codes_le : ∀ r ∈ s.codes, r.n ≤ s.fresh
  prov_le : ∀ t ∈ s.tokens, ∀ k, provCode t = some k → k ≤ s.fresh ∧ ∀ r ∈ s.codes, r.n ≠ k
  distinct : s.tokens.Pairwise fun t1 t2 => ∀ k, provCode t1 = some k → provCode t2 ≠ some k

theorem provCode_eq_some {t : TokRec} {k : Nat} : provCode t = some k ↔ t.prov = .code k := by
  unfold provCode
  split <;> simp_all

theorem revokeTok_born (ts : List TokRec) (n : Nat) (a r : Bool) :
    (revokeTok ts n a r).filterMap provCode = ts.filterMap provCode := by
  unfold revokeTok
  rw [List.filterMap_map]
  apply List.filterMap_congr
  intro t _
  simp only [Function.comp]
  split <;> rfl

theorem mkToken_born {s : Store} {c u sc r p e} (hp : ∀ k, p ≠ .code k) (ts : List TokRec) :
    (ts ++ [(mkToken s c u sc r p e).1]).filterMap provCode = ts.filterMap provCode := by
  have : provCode (mkToken s c u sc r p e).1 = none :=
    Option.eq_none_iff_forall_ne_some.mpr fun k hk =>
      hp k ((mkToken_prov ..).symm.trans (provCode_eq_some.mp hk))
  rw [List.filterMap_append, List.filterMap_cons_none this, List.filterMap_nil, List.append_nil]

theorem Inv.single_use {s : Store} (h : Inv s) :
    s.tokens.Pairwise (fun t1 t2 => ∀ k, t1.prov = .code k → t2.prov ≠ .code k) ∧
    ∀ t ∈ s.tokens, ∀ k, t.prov = .code k → ∀ r ∈ s.codes, r.n ≠ k :=
  ⟨h.distinct.imp fun h k hk e => h k (provCode_eq_some.mpr hk) (provCode_eq_some.mpr e),
   fun t ht k hk => (h.prov_le t ht k (provCode_eq_some.mpr hk)).2⟩

theorem inv_iff {s : Store} : Inv s ↔ SingleUse (s.codes.map (·.n)) (s.tokens.filterMap provCode) s.fresh :=
  ⟨fun h => ⟨List.forall_mem_map.mpr h.codes_le,
      by simpa only [List.forall_mem_filterMap, List.forall_mem_map] using h.prov_le,
      List.pairwise_filterMap.mpr (h.distinct.imp fun h k hk k' hk' (e : k = k') => h k hk (e ▸ hk'))⟩,
   fun h => ⟨List.forall_mem_map.mp h.pending_le,
      by simpa only [List.forall_mem_filterMap, List.forall_mem_map] using h.born_le,
      (List.pairwise_filterMap.mp h.distinct).imp fun h k hk e => h k hk k e rfl⟩⟩

theorem effect_inv {s : Store} {op : Op} {s' : Store} (h : Effect s op s') (hs : Inv s) : Inv s' := by
  have hf := h.fresh_le
  rw [inv_iff] at hs ⊢
  -- what holds when the request neither allocates nor consumes a code
  have keep := hs.mono hf (List.Subset.refl _)
  cases h
  case authorize =>
    simpa only [List.map_append, List.map_cons, List.map_nil] using hs.alloc (Nat.lt_succ_self _)
  case redeem c _ rec hc sc e =>
    have hmem : rec ∈ s.codes := (redeemCheck_ok_spec _ _ _ _ _ _ _ _ hc).2.2.1
    have hb := provCode_eq_some.mpr (mkToken_prov s c (some rec.user) sc true (.code rec.n) e)
    simpa only [List.filterMap_append, List.filterMap_cons_some hb, List.filterMap_nil, List.filter_map,
      Function.comp_def]
      using (hs.consume (List.mem_map_of_mem hmem)).mono hf (List.Subset.refl _)
  case issue hp =>
    simpa only [mkToken_born hp] using keep
  case refresh n =>
    simpa only [mkToken_born (p := .refresh n) fun _ => nofun, revokeTok_born] using keep
  case revoke =>
    simpa only [revokeTok_born] using keep
  all_goals exact keep

theorem step_preserves_inv (s : Store) (op : Op) (hs : Inv s) : Inv (step s op).1 :=
  effect_inv (step_effect s op) hs

theorem run_preserves_inv (ops : List Op) (s : Store) (h : Inv s) : Inv (run s ops) :=
  List.foldlRecOn ops _ h fun s hs op _ => step_preserves_inv s op hs

/-- **Single use, over every history**: starting from an empty store, after ANY sequence of
    requests no two tokens were issued for the same authorization code, and a code that produced a
    token is no longer in the store. -/
theorem code_single_use (s0 : Store) (h1 : s0.codes = []) (h2 : s0.tokens = []) (ops : List Op) :
    (run s0 ops).tokens.Pairwise (fun t1 t2 => ∀ k, t1.prov = .code k → t2.prov ≠ .code k) ∧
    ∀ t ∈ (run s0 ops).tokens, ∀ k, t.prov = .code k → ∀ r ∈ (run s0 ops).codes, r.n ≠ k :=
  (run_preserves_inv ops s0
    ⟨fun _ h => absurd (h1 ▸ h) List.not_mem_nil, fun _ h => absurd (h2 ▸ h) List.not_mem_nil, h2 ▸ .nil⟩).single_use

/-- **Step-level statement for device codes.** A poll is answered with a token only if the device
    code is known, was issued to the authenticated client, has not expired, and the latest decision
    recorded for its user code is an approval; the token belongs to the approving user. -/
theorem poll_token_implies (s : Store) (auth : Auth) (dc : Option Ref) (a : Nat)
    (h : (step s (.poll auth dc)).2.access = some a) :
    ∃ c m d u g0, authClient s auth allMethods = some (c, m) ∧ dc = some (.dc d.dc) ∧ d ∈ s.devices ∧
      d.client = c.id ∧ ¬ (d.expiresAt < s.now) ∧
      s.grants.find? (fun g => g.1 == d.uc) = some (g0, u, true) ∧
      ∃ t ∈ (step s (.poll auth dc)).1.tokens, t.access = a ∧ t.user = some u ∧ t.client = c.id ∧ t.prov = .device d.dc := by
  generalize hop : Op.poll auth dc = op at h ⊢
  revert h
  fun_cases step s op <;> cases hop <;> intro h <;> try cases h
  next ref c m _ d hd hcl hexp g0 u hg _ ha =>
    cases ref with
    | dc n =>
      have hn : d.dc = n := by simpa using List.find?_some hd
      exact ⟨c, m, d, u, g0, ha, by rw [hn], List.mem_of_find?_eq_some hd, by simpa using hcl, hexp, hg,
        _, List.mem_append_right _ (List.mem_singleton_self _), rfl, mkToken_user .., mkToken_client .., mkToken_prov ..⟩
    | _ => exact nomatch (hd : none = some d)

/-- pending, denied and expired device codes never yield a token -/
theorem poll_no_token_unless_approved (s : Store) (auth : Auth) (dc : Option Ref)
    (hno : ∀ d ∈ s.devices, dc = some (.dc d.dc) →
      (d.expiresAt < s.now ∨ ∀ g0 u, s.grants.find? (fun g => g.1 == d.uc) ≠ some (g0, u, true))) :
    (step s (.poll auth dc)).2.access = none := by
  cases hacc : (step s (.poll auth dc)).2.access with
  | none => rfl
  | some a =>
    obtain ⟨c, m, d, u, g0, _, hdc, hmem, _, hexp, hg, _⟩ := poll_token_implies s auth dc a hacc
    rcases hno d hmem hdc with h | h
    · exact absurd h hexp
    · exact absurd hg (h g0 u)

end Props.C06
