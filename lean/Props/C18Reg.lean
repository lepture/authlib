import Model.Registration
import Lemmas.List
/-
  C18 (registration part) — what registration and update store: every URI of the stored metadata is absolute and
  fragment-free, the requested scope / grant types / response types / token-endpoint authentication method are supported
  by the server; registration without the initial access token and updates addressed to another client, carrying a wrong
  secret or a server-controlled member, are refused and leave the store untouched; all of it an invariant of the store
  over every history of requests. Last, what the OpenID Connect registration claims class lets through
  (`oidc_validated_is_good`).
-/
namespace Props.C18Reg
open Model.Metadata Model.Registration Model.Url

def GoodMember (sm : ServerMeta) (k : String) (v : V) : Prop :=
  (k ∈ uriMembers → v.truthy = true → ∃ s, v = .a (.str s) ∧ isValidUrl s.toList false = true) ∧
  (k = "redirect_uris" → v.truthy = true → ∃ xs, v = .l xs ∧ xs.all validUriStr = true) ∧
  (k = "grant_types" → ∀ g, sm.grantTypes = some g → v.truthy = true → subsetCheck g v "authorization_code" = some true) ∧
  (k = "response_types" → ∀ g, sm.responseTypes = some g → v.truthy = true → subsetCheck g v "code" = some true) ∧
  (k = "scope" → ∀ g, sm.scopes = some g → scopeCheck g v = some true) ∧
  (k = "token_endpoint_auth_method" → ∀ ms, sm.authMethods = some ms → ms ≠ [] → ∃ x, v = .a x ∧ mem x (ms.map A.str) = true)

def Good (sm : ServerMeta) (md : Doc) : Prop := ∀ k v, md.lookup k = some v → GoodMember sm k v

theorem firstSome_none : ∀ l : List (Option Err), firstSome l = none → ∀ x ∈ l, x = none
  | none :: r, h, x, hx => (List.mem_cons.mp hx).elim id (firstSome_none r h x)
  | some _ :: _, h, _, _ => nomatch h
  | [], _, _, hx => nomatch hx

@[simp]
theorem mget_setDefault_ne (p : Doc) (k k' : String) (v : V) (h : k' ≠ k) :
    mget (setDefault p k v) k' = mget p k' := by
  unfold setDefault
  split
  · rfl
  · have hb : (k' == k) = false := by simpa using h
    simp [mget, List.lookup_append, List.lookup_cons, hb]

theorem mget_setDefault_self (p : Doc) (k : String) (v : V) :
    mget (setDefault p k v) k = if has p k then mget p k else v := by
  unfold setDefault has mget
  cases hl : p.lookup k <;> simp [List.lookup_append, hl]

theorem checkUri_none {p : Doc} {key : String} (h : checkUri p key = none) (ht : (mget p key).truthy = true) :
    ∃ s, mget p key = .a (.str s) ∧ isValidUrl s.toList false = true := by
  revert h
  fun_cases checkUri p key <;> intro h <;> cases h
  next hf => cases ht ▸ (hf : (!(mget p key).truthy) = true)
  next s hv hu => exact ⟨s, hv, hu⟩

theorem checkRedirectUris_none {p : Doc} (h : checkRedirectUris p = none)
    (ht : (mget p "redirect_uris").truthy = true) :
    ∃ xs, mget p "redirect_uris" = .l xs ∧ xs.all validUriStr = true := by
  revert h
  fun_cases checkRedirectUris p <;> intro h <;> cases h
  next hf => cases ht ▸ (hf : (!(mget p "redirect_uris").truthy) = true)
  next xs hv hu => exact ⟨xs, hv, hu⟩

theorem claimValue_none {c : Option Bool} {k : String} (h : claimValue c k = none) : c = some true := by
  revert h
  fun_cases claimValue c k <;> intro h <;> cases h
  rfl

/-- **what is stored is good**: a successful validation yields metadata whose every URI is absolute and
    fragment-free and whose scope / grant types / response types / auth method are supported -/
theorem validated_metadata_is_good (sm : ServerMeta) (p : Doc) (j : Option Bool) (md : Doc)
    (h : validateClaims sm p j = .ok md) : Good sm md := by
  unfold validateClaims at h
  -- the payload with the default authentication method filled in
  simp only [← setDefault.eq_1] at h
  split at h
  · cases h
  · cases h
  next hnone =>
    injection h with h
    have hall := firstSome_none _ hnone
    simp only [List.mem_cons, List.mem_nil_iff, or_false, forall_eq_or_imp, forall_eq] at hall
    obtain ⟨hru, hauth, hgr, hrt, hcu, hlu, hsc, _, htu, hpu, hju, _⟩ := hall
    have huri : ∀ key ∈ uriMembers, checkUri p key = none := by
      simp only [uriMembers, List.mem_cons, List.mem_nil_iff, or_false, forall_eq_or_imp, forall_eq]
      exact ⟨hcu, hlu, htu, hpu, hju⟩
    intro k v hkv
    rw [← h,
      List.lookup_filter_fst _ (fun k => Generated.Metadata.clientRegisteredClaims.contains k && k != "jwks")] at hkv
    have hd : mget (setDefault p "token_endpoint_auth_method" (.a (.str "client_secret_basic"))) k = v := by
      split at hkv
      · simp [mget, hkv]
      · cases hkv
    have hp : k ≠ "token_endpoint_auth_method" → mget p k = v := fun hne => mget_setDefault_ne p _ k _ hne ▸ hd
    refine ⟨?_, ?_, ?_, ?_, ?_, ?_⟩
    · intro hk ht
      rw [← hp fun e => by simp [e, uriMembers] at hk] at ht ⊢
      exact checkUri_none (huri k hk) ht
    · rintro rfl ht
      rw [← hp (by simp)] at ht ⊢
      exact checkRedirectUris_none hru ht
    · rintro rfl g hg _
      rw [← hp (by simp)]
      rw [hg] at hgr
      exact claimValue_none hgr
    · rintro rfl g hg _
      rw [← hp (by simp)]
      rw [hg] at hrt
      exact claimValue_none hrt
    · rintro rfl g hg
      rw [← hp (by simp)]
      rw [hg] at hsc
      -- the inline match of the scope check is `claimValue` unfolded
      exact claimValue_none (k := "scope") hsc
    · rintro rfl ms hms hne
      have hemp : ms.isEmpty = false := by simpa using hne
      simp only [hms, hemp, Bool.false_eq_true, if_false, hd] at hauth
      cases v with
      | l xs => cases hauth
      | a x => exact ⟨x, rfl, by simpa using hauth⟩

def StoreGood (sm : ServerMeta) (s : Store) : Prop := ∀ c ∈ s.clients, Good sm c.metadata

theorem merge_lookup (old new : Doc) (k : String) :
    (merge old new).lookup k = if has new k then new.lookup k else old.lookup k := by
  unfold merge has
  rw [List.lookup_append, List.lookup_filter_fst old (fun k => !(new.lookup k).isSome)]
  cases new.lookup k <;> simp

theorem merge_good {sm : ServerMeta} {old new : Doc} (ho : Good sm old) (hn : Good sm new) :
    Good sm (merge old new) := by
  intro k v hkv
  rw [merge_lookup] at hkv
  split at hkv
  · exact hn k v hkv
  · exact ho k v hkv

/-- **invariant**: registration and update only ever store good metadata -/
theorem step_preserves_storeGood (sm : ServerMeta) (s : Store) (op : Op) (h : StoreGood sm s) :
    StoreGood sm (step sm s op).1 := by
  -- every refusing branch returns the store as it is
  fun_cases step sm s op <;> try exact h
  next md hv _ =>
    -- registration appends the validated metadata
    exact List.forall_mem_append.mpr ⟨h, List.forall_mem_singleton.mpr (validated_metadata_is_good sm _ _ md hv)⟩
  next md hv =>
    -- update merges it into the addressed client's
    intro c hc
    obtain ⟨x, hx, rfl⟩ := List.mem_map.mp hc
    split
    · exact merge_good (h x hx) (validated_metadata_is_good sm _ _ md hv)
    · exact h x hx

def run (sm : ServerMeta) (s : Store) (ops : List Op) : Store := ops.foldl (fun st op => (step sm st op).1) s

/-- **every history**: whatever sequence of registration and update requests is made, every client in
    the store has only absolute, fragment-free URIs and supported scope / grants / response types / method -/
theorem store_good_over_every_history (sm : ServerMeta) (ops : List Op) : StoreGood sm (run sm ⟨[], 0⟩ ops) :=
  List.foldlRecOn ops _ (fun _ hc => nomatch hc) fun s hs op _ => step_preserves_storeGood sm s op hs

/-- registration without the valid initial access token is refused and stores nothing -/
theorem register_without_token_refused (sm : ServerMeta) (s : Store) (tok : Token) (p : Option Doc) (j : Option Bool)
    (h : tok ≠ .initial) : step sm s (.register tok p j) = (s, ⟨400, some "access_denied"⟩) := by
  simp [step, h]

theorem update_refused (sm : ServerMeta) (s : Store) (cid : String) (c : Client) (p : Doc) (j : Option Bool)
    (hf : s.clients.find? (fun c => c.id == cid) = some c)
    (hbad : Generated.Metadata.updateMustNotInclude.any (has p) = true ∨ (mget p "client_id").truthy = false ∨
      mget p "client_id" ≠ .a (.str c.id) ∨ (has p "client_secret" = true ∧ mget p "client_secret" ≠ .a (.str c.secret))) :
    step sm s (.update (.ofClient cid) (some p) j) = (s, ⟨400, some "invalid_request"⟩) := by
  simp only [step, hf]
  -- each disjunct of `hbad` fires its own test, and the tests before it give the same answer
  rcases hbad with h | h | h | ⟨h1, h2⟩
  · exact if_pos h
  · exact ite_eq_left_iff.mpr fun _ => if_pos (by simp [h])
  · exact ite_eq_left_iff.mpr fun _ => ite_eq_left_iff.mpr fun _ => if_pos (by simpa using h)
  · exact ite_eq_left_iff.mpr fun _ => ite_eq_left_iff.mpr fun _ => ite_eq_left_iff.mpr fun _ =>
      if_pos (by simp [h1, h2])

/-- an update is refused, and the store untouched, when it is addressed to another client … -/
theorem update_other_client_refused (sm : ServerMeta) (s : Store) (cid : String) (c : Client) (p : Doc) (j : Option Bool)
    (hf : s.clients.find? (fun c => c.id == cid) = some c) (hother : mget p "client_id" ≠ .a (.str c.id)) :
    (step sm s (.update (.ofClient cid) (some p) j)).1 = s ∧ (step sm s (.update (.ofClient cid) (some p) j)).2.status = 400 := by
  rw [update_refused sm s cid c p j hf (.inr (.inr (.inl hother)))]
  exact ⟨rfl, rfl⟩

/-- … carries a wrong client_secret … -/
theorem update_wrong_secret_refused (sm : ServerMeta) (s : Store) (cid : String) (c : Client) (p : Doc) (j : Option Bool)
    (hf : s.clients.find? (fun c => c.id == cid) = some c) (hhas : has p "client_secret" = true)
    (hwrong : mget p "client_secret" ≠ .a (.str c.secret)) :
    (step sm s (.update (.ofClient cid) (some p) j)).1 = s ∧ (step sm s (.update (.ofClient cid) (some p) j)).2.status = 400 := by
  rw [update_refused sm s cid c p j hf (.inr (.inr (.inr ⟨hhas, hwrong⟩)))]
  exact ⟨rfl, rfl⟩

/-- … or any server-controlled member (the list is regenerated from the endpoint's source) -/
theorem update_server_member_refused (sm : ServerMeta) (s : Store) (cid : String) (c : Client) (p : Doc) (j : Option Bool)
    (hf : s.clients.find? (fun c => c.id == cid) = some c) (k : String) (hk : k ∈ Generated.Metadata.updateMustNotInclude)
    (hhas : has p k = true) :
    step sm s (.update (.ofClient cid) (some p) j) = (s, ⟨400, some "invalid_request"⟩) :=
  update_refused sm s cid c p j hf (.inl (List.any_eq_true.mpr ⟨k, hk, hhas⟩))

theorem update_without_client_token_refused (sm : ServerMeta) (s : Store) (tok : Token) (p : Option Doc) (j : Option Bool)
    (h : ∀ cid, tok ≠ .ofClient cid) : step sm s (.update tok p j) = (s, ⟨400, some "access_denied"⟩) := by
  cases tok with
  | ofClient cid => exact absurd rfl (h cid)
  | _ => rfl

/-- the four members RFC 7592 reserves to the server are all in the regenerated list -/
theorem server_members_listed :
    ["registration_access_token", "registration_client_uri", "client_secret_expires_at", "client_id_issued_at"].all
      Generated.Metadata.updateMustNotInclude.contains = true := by decide +kernel

@[simp]
theorem mget_encPair_ne (p : Doc) (alg enc k : String) (h : k ≠ enc) : mget (encPair p alg enc).2 k = mget p k := by
  unfold encPair
  split
  · rfl
  · simp only
    split
    · exact mget_setDefault_ne p enc k _ h
    · rfl

theorem uriEntryErr_none_str {k s : String} (h : uriEntryErr k (.str s) = none) :
    s = "" ∨ isValidUrl s.toList true = true := by
  by_cases he : s = ""
  · exact Or.inl he
  · simpa [uriEntryErr, A.truthy, he] using h

theorem checkUriOrList_none {p : Doc} {k : String} (h : checkUriOrList p k = none) :
    (∀ s, mget p k = .a (.str s) → s = "" ∨ isValidUrl s.toList true = true) ∧
    (∀ xs, mget p k = .l xs → ∀ s, A.str s ∈ xs → s = "" ∨ isValidUrl s.toList true = true) := by
  unfold checkUriOrList at h
  constructor
  · intro s hs
    rw [hs] at h
    exact uriEntryErr_none_str h
  · intro xs hx s hmem
    rw [hx] at h
    exact uriEntryErr_none_str (List.filterMap_eq_nil_iff.mp (List.head?_eq_none_iff.mp h) _ hmem)

theorem chk_ok_iff {e : Option Err} {k : CR} {d : Doc} : chk e k = .ok d ↔ e = none ∧ k = .ok d := by
  unfold chk
  split <;> simp

theorem mget_filter_mem (pf : Doc) (ks : List String) (k : String) (hk : k ∈ ks) :
    mget (pf.filter fun kv => ks.contains kv.1) k = mget pf k := by
  unfold mget
  rw [List.lookup_filter_fst pf (fun k => ks.contains k), if_pos (by simpa using hk)]

theorem inAllowed_none {m : OidcMeta} {k : String} {v : V} {vals : List String} (h : inAllowed m k v = none)
    (hm : m.allowed.lookup k = some vals) (hne : vals ≠ []) (ht : v.truthy = true) :
    ∃ x, v = .a x ∧ mem x (vals.map A.str) = true := by
  have he : vals.isEmpty = false := by simpa using hne
  simp only [inAllowed, hm, he, ht, Bool.not_true, Bool.or_self, Bool.false_eq_true, if_false] at h
  cases v with
  | l xs => cases h
  | a x => exact ⟨x, rfl, by simpa using h⟩

/-- **what the OpenID registration claims class stores**: application_type is web or native, the two
    signing algorithms are never "none", the subject type is one the provider supports, and every
    sector_identifier_uri / initiate_login_uri / request_uris entry is empty or an absolute URL -/
theorem oidc_validated_is_good (m : OidcMeta) (p0 stored : Doc) (h : validateOidcClaims m p0 = .ok stored) :
    (mget stored "application_type" = .a (.str "web") ∨ mget stored "application_type" = .a (.str "native")) ∧
    mget stored "token_endpoint_auth_signing_alg" ≠ .a (.str "none") ∧
    mget stored "id_token_signed_response_alg" ≠ .a (.str "none") ∧
    (∀ vals, m.allowed.lookup "subject_type" = some vals → vals ≠ [] → (mget stored "subject_type").truthy = true →
        ∃ x, mget stored "subject_type" = .a x ∧ mem x (vals.map A.str) = true) ∧
    (∀ k ∈ ["sector_identifier_uri", "initiate_login_uri", "request_uris"],
        (∀ s, mget stored k = .a (.str s) → s = "" ∨ isValidUrl s.toList true = true) ∧
        (∀ xs, mget stored k = .l xs → ∀ s, A.str s ∈ xs → s = "" ∨ isValidUrl s.toList true = true)) := by
  -- the validators of the class in their order; named are the ones the statement speaks of
  simp only [validateOidcClaims, chk_ok_iff] at h
  obtain ⟨hauthalg, -, happ, hsector, hsubj, hidalg, -, -, -, -, -, -, -, -, -, -, -, hlogin, -, -, -, -, hrequris, h⟩ :=
    h
  injection h with h
  -- a registered member passes the filter; its `mget` then moves through the defaults filled in for other members
  have hst : ∀ k, k ∈ oidcRegistered → mget stored k = mget _ k := fun k hk => h ▸ mget_filter_mem _ _ k hk
  refine ⟨?_, ?_, ?_, ?_, ?_⟩
  · rw [hst _ (by simp [oidcRegistered])]
    simpa [Decidable.or_iff_not_imp_left] using happ
  · rw [hst _ (by simp [oidcRegistered])]
    simpa [isStrNone] using hauthalg
  · rw [hst _ (by simp [oidcRegistered])]
    simp only [mget_encPair_ne, mget_setDefault_ne, ne_eq, String.reduceEq, not_false_eq_true, mget_setDefault_self]
    split
    · simpa [isStrNone] using hidalg
    · simp
  · intro vals hm hne
    rw [hst _ (by simp [oidcRegistered])]
    simp only [mget_encPair_ne, mget_setDefault_ne, ne_eq, String.reduceEq, not_false_eq_true] at hsubj ⊢
    exact inAllowed_none hsubj hm hne
  · intro k hk
    simp only [List.mem_cons, List.mem_nil_iff, or_false] at hk
    rcases hk with rfl | rfl | rfl
    · rw [hst _ (by simp [oidcRegistered])]
      simpa only [mget_encPair_ne, mget_setDefault_ne, ne_eq, String.reduceEq, not_false_eq_true]
        using checkUriOrList_none hsector
    · rw [hst _ (by simp [oidcRegistered])]
      simpa only [mget_encPair_ne, mget_setDefault_ne, ne_eq, String.reduceEq, not_false_eq_true]
        using checkUriOrList_none hlogin
    · rw [hst _ (by simp [oidcRegistered])]
      exact checkUriOrList_none hrequris

end Props.C18Reg
