import Model.Jws
import Model.JwsRegistry
import Lemmas.Base64
import Lemmas.Percent
import Lemmas.Jws
/-
  C01 — JWS: acceptance implies the primitive verified exactly the received signing input and the
  whole received signature; round trip; `none` never verifies; length guards; tamper = forgery;
  general JSON: every signature verified and at least one exists.
-/
namespace Props.C01
open Model Model.Jws

theorem dot_not_in_urlEncode (b : Bytes) : (46 : UInt8) ∉ Base64.urlEncode b :=
  Base64.not_mem_encode (by decide) b

theorem prepareAlg_ok_iff (P : Prims) (allowed : Option (List String)) (hdr : Option String) (k : Key) (a : Alg) :
    prepareAlg P allowed hdr k = .ok a ↔
      ∃ name, hdr = some name ∧ P.registry name = some a ∧ (∀ l, allowed = some l → name ∈ l) ∧
        keyFits a k = true := by
  constructor
  · fun_cases prepareAlg P allowed hdr k <;> intro h <;> cases h
    next name hal hreg hfit =>
      exact ⟨name, rfl, hreg, (allowedOk_iff allowed name).mp (by simpa using hal), hfit⟩
  · rintro ⟨name, rfl, hreg, hallow, hfit⟩
    simp [prepareAlg, (allowedOk_iff allowed name).mpr hallow, hreg, hfit]

theorem deserializeCompact_ok_iff (P : Prims) (allowed : Option (List String)) (s : Bytes) (k : Key)
    (v : Verified) :
    deserializeCompact P allowed s k = .ok v ↔
    ∃ hs ps gs sig name a,
      s = hs ++ 46 :: ps ++ 46 :: gs ∧ (46 : UInt8) ∉ hs ∧ (46 : UInt8) ∉ gs ∧
      Base64.urlDecode hs = some v.headerOctets ∧ Base64.urlDecode ps = some v.payload ∧
      Base64.urlDecode gs = some sig ∧
      P.header v.headerOctets = some (some name) ∧ P.registry name = some a ∧
      (∀ l, allowed = some l → name ∈ l) ∧ keyFits a k = true ∧
      verifyAlg P a k (hs ++ 46 :: ps) sig = true := by
  constructor
  · fun_cases deserializeCompact P allowed s k <;> intro h <;> cases h
    obtain ⟨rfl, hgs⟩ := rsplit1_spec ‹_›
    obtain ⟨rfl, hhs⟩ := Percent.split1_spec ‹_›
    obtain ⟨name, rfl, hreg, hallow, hfit⟩ := (prepareAlg_ok_iff P allowed _ k _).mp ‹_›
    exact ⟨_, _, _, _, name, _, rfl, hhs, hgs, ‹_›, ‹_›, ‹_›, ‹_›, hreg, hallow, hfit, ‹_›⟩
  · rintro ⟨hs, ps, gs, sig, name, a, rfl, hhs, hgs, hd1, hd2, hd3, hh, hreg, hallow, hfit, hv⟩
    have hp := (prepareAlg_ok_iff P allowed (some name) k a).mpr ⟨name, rfl, hreg, hallow, hfit⟩
    simp only [deserializeCompact, rsplit1_append 46 gs hgs, Percent.split1_append 46 hs ps hhs, hd1, hh, hd2,
      hd3, hp, hv, if_true]

/-- **Core statement (compact).** If `deserialize_compact` returns a verified object then the
    input is `hs.ps.gs` with no dot in `hs` and `gs`, the returned header/payload are the decodings
    of the received segments, the algorithm is the registered, allowed one named by the received
    header, and the primitive accepted the received signing input `hs.ps` with ALL octets of the
    received signature. -/
theorem accept_implies_prim_verified (P : Prims) (allowed : Option (List String)) (s : Bytes) (k : Key)
    (v : Verified) (h : deserializeCompact P allowed s k = .ok v) :
    ∃ hs ps gs sig name a,
      s = hs ++ 46 :: ps ++ 46 :: gs ∧ (46 : UInt8) ∉ hs ∧ (46 : UInt8) ∉ gs ∧
      Base64.urlDecode hs = some v.headerOctets ∧ Base64.urlDecode ps = some v.payload ∧
      Base64.urlDecode gs = some sig ∧
      P.header v.headerOctets = some (some name) ∧ P.registry name = some a ∧
      (∀ l, allowed = some l → name ∈ l) ∧ keyFits a k = true ∧
      verifyAlg P a k (hs ++ 46 :: ps) sig = true :=
  (deserializeCompact_ok_iff P allowed s k v).mp h

/-- `alg: none` is never accepted. -/
theorem none_never_verifies (P : Prims) (allowed : Option (List String)) (s : Bytes) (k : Key)
    (v : Verified) (h : deserializeCompact P allowed s k = .ok v) :
    ∀ name, P.header v.headerOctets = some (some name) → P.registry name ≠ some .none := by
  intro name hn hreg
  obtain ⟨hs, ps, gs, sig, name', a, -, -, -, -, -, -, hh, hr, -, -, hv⟩ :=
    accept_implies_prim_verified P allowed s k v h
  rw [hn] at hh
  cases hh
  rw [hreg] at hr
  cases hr
  simp [verifyAlg] at hv

/-- a MAC of the wrong length is rejected, unconditionally (given the MAC's output length) -/
theorem hmac_sig_length (P : Prims) (bits n : Nat) (hlen : ∀ k m, (P.mac bits k m).length = n)
    (key msg sig : Bytes) (hne : sig.length ≠ n) : verifyAlg P (.hs bits) (.oct key) msg sig = false := by
  have : sig ≠ P.mac bits key msg := fun e => hne (e ▸ hlen key msg)
  simpa [verifyAlg] using this

/-- an ECDSA signature that is not exactly `2 * coordinate length` octets is rejected, unconditionally -/
theorem ecdsa_sig_length (P : Prims) (name : String) (len : Nat) (k : Key) (msg sig : Bytes)
    (hne : sig.length ≠ 2 * len) : verifyAlg P (.es name len) k msg sig = false := by
  cases k <;> simp [verifyAlg, hne]

/-- signatures made by the library verify: for HMAC with no assumption at all -/
theorem hs_sig_correct (P : Prims) (bits : Nat) (key msg : Bytes) :
    verifyAlg P (.hs bits) (.oct key) msg (signAlg P (.hs bits) (.oct key) msg) = true := by
  simp [verifyAlg, signAlg]

/-- **Round trip (compact)**, every header, payload, key; `SigCorrect` is the only hypothesis about
    the primitive (and is a theorem for HS*, see `hs_sig_correct`). -/
theorem roundtrip_compact (P : Prims) (allowed : Option (List String)) (a : Alg) (name : String)
    (hjson payload : Bytes) (k : Key)
    (hhdr : P.header hjson = some (some name)) (hreg : P.registry name = some a)
    (hallow : ∀ l, allowed = some l → name ∈ l) (hfit : keyFits a k = true)
    (SigCorrect : ∀ m, verifyAlg P a k m (signAlg P a k m) = true) :
    deserializeCompact P allowed (serializeCompact P a hjson payload k) k = .ok ⟨hjson, payload⟩ :=
  (deserializeCompact_ok_iff ..).mpr ⟨_, _, _, _, name, a, rfl, dot_not_in_urlEncode _, dot_not_in_urlEncode _,
    Base64.urlDecode_urlEncode _, Base64.urlDecode_urlEncode _, Base64.urlDecode_urlEncode _, hhdr, hreg, hallow,
    hfit, SigCorrect _⟩

/-- **Tamper rejection as a reduction.** If a token is accepted whose signature octets were
    produced (by anybody) for a *different* signing input under the same algorithm and key, the
    pair is an explicit forgery of the primitive; for HS* it is an explicit HMAC collision. -/
theorem tamper_reduces_to_collision (P : Prims) (allowed : Option (List String)) (s : Bytes) (key : Bytes)
    (v : Verified) (h : deserializeCompact P allowed s (.oct key) = .ok v) :
    ∃ hs ps gs sig name a, s = hs ++ 46 :: ps ++ 46 :: gs ∧ P.registry name = some a ∧
      Base64.urlDecode gs = some sig ∧
      ∀ bits, a = .hs bits → ∀ m, sig = P.mac bits key m →
        P.mac bits key (hs ++ 46 :: ps) = P.mac bits key m := by
  obtain ⟨hs, ps, gs, sig, name, a, e, -, -, -, -, hd, -, hr, -, -, hv⟩ :=
    accept_implies_prim_verified P allowed s (.oct key) v h
  refine ⟨hs, ps, gs, sig, name, a, e, hr, hd, ?_⟩
  intro bits ha m hm
  subst ha
  have : sig = P.mac bits key (hs ++ 46 :: ps) := by simpa [verifyAlg] using hv
  rw [← this, hm]

theorem validateAll_spec {P : Prims} {allowed : Option (List String)} {paySeg : Bytes} {k : Key}
    {es : List Entry} {hs : List Bytes} {ok : Bool} (h : validateAll P allowed paySeg k es = .ok (hs, ok)) :
    hs.length = es.length ∧
      (ok = true → ∀ e ∈ es, ∃ h, validateEntry P allowed paySeg e k = .ok (h, true)) := by
  revert h
  fun_induction validateAll P allowed paySeg k es generalizing hs ok <;> intro h <;> cases h
  next => simp
  next _ _ _ v he _ vs hr ih =>
    obtain ⟨hl, hall⟩ := ih hr
    refine ⟨by simp [hl], fun hok => ?_⟩
    obtain ⟨rfl, rfl⟩ : v = true ∧ vs = true := by simpa using hok
    simpa [he] using hall rfl

theorem validateEntry_true (P : Prims) (allowed : Option (List String)) (paySeg : Bytes) (e : Entry)
    (k : Key) (h : Bytes) (hv : validateEntry P allowed paySeg e k = .ok (h, true)) :
    ∃ protSeg sigSeg sig name a, e.protectedSeg = some protSeg ∧ e.signatureSeg = some sigSeg ∧
      Base64.urlDecode protSeg = some h ∧ Base64.urlDecode sigSeg = some sig ∧
      P.header h = some (some name) ∧ P.registry name = some a ∧ keyFits a k = true ∧
      verifyAlg P a k (protSeg ++ 46 :: paySeg) sig = true := by
  revert hv
  -- not `cases hv`: it cannot eliminate `verifyAlg … = true` in the accepting branch
  fun_cases validateEntry P allowed paySeg e k <;> intro hv <;>
    simp only [reduceCtorEq, Except.ok.injEq, Prod.mk.injEq] at hv
  obtain ⟨rfl, hv⟩ := hv
  obtain ⟨name, rfl, hreg, -, hfit⟩ := (prepareAlg_ok_iff P allowed _ k _).mp ‹_›
  exact ⟨_, _, _, name, _, ‹_›, ‹_›, ‹_›, ‹_›, ‹_›, hreg, hfit, hv⟩

/-- **General JSON: accepted only if EVERY signature verifies, and there is at least one.** -/
theorem general_all_signatures (P : Prims) (allowed : Option (List String)) (ps : Option Bytes)
    (es : List Entry) (k : Key) (v : VerifiedJson)
    (h : deserializeJson P allowed (.general ps es) k = .ok v) :
    es ≠ [] ∧ ∃ paySeg, ps = some paySeg ∧ Base64.urlDecode paySeg = some v.payload ∧
      v.headers.length = es.length ∧
      ∀ e ∈ es, ∃ hd, validateEntry P allowed paySeg e k = .ok (hd, true) := by
  -- `fun_cases` follows the match on the JSON object only when that argument is a variable
  generalize ho : JsonJws.general ps es = o at h
  revert h
  fun_cases deserializeJson P allowed o k <;> cases ho <;> intro h <;> cases h
  next paySeg _ hd _ hne hr =>
    obtain ⟨hl, hall⟩ := validateAll_spec hr
    exact ⟨by simpa using hne, paySeg, rfl, hd, hl, hall rfl⟩

/-- flattened JSON: accepted only if its one signature verifies -/
theorem flat_signature_verified (P : Prims) (allowed : Option (List String)) (ps : Option Bytes)
    (e : Entry) (k : Key) (v : VerifiedJson) (h : deserializeJson P allowed (.flat ps e) k = .ok v) :
    ∃ paySeg hd, ps = some paySeg ∧ Base64.urlDecode paySeg = some v.payload ∧ v.headers = [hd] ∧
      validateEntry P allowed paySeg e k = .ok (hd, true) := by
  generalize ho : JsonJws.flat ps e = o at h
  revert h
  fun_cases deserializeJson P allowed o k <;> cases ho <;> intro h <;> cases h
  next paySeg _ hd hh he => exact ⟨paySeg, hh, rfl, hd, rfl, he⟩

/-- the only registered name implemented by the never-verifying algorithm is `none` … -/
theorem registry_none_only_none :
    ∀ e ∈ Generated.Jose.jwsRegistry, algOf e = some .none → e.1 = "none" := by decide +kernel

/-- … every registered entry is understood by the model (no unknown implementing class) … -/
theorem registry_all_modelled : ∀ e ∈ Generated.Jose.jwsRegistry, (algOf e).isSome = true := by
  decide +kernel

/-- … and the registry is exactly RFC 7518 §3.1 + RFC 8037 + RFC 8812 with the RFC's parameters
    (hash sizes, curves, ECDSA coordinate lengths 32 / 48 / 66 / 32). -/
theorem registry_eq_rfc :
    Generated.Jose.jwsRegistry.map (fun e => (e.1, algOf e)) =
      [("none", some .none), ("HS256", some (.hs 256)), ("HS384", some (.hs 384)), ("HS512", some (.hs 512)),
       ("RS256", some (.rs 256)), ("RS384", some (.rs 384)), ("RS512", some (.rs 512)),
       ("ES256", some (.es "P-256" 32)), ("ES384", some (.es "P-384" 48)), ("ES512", some (.es "P-521" 66)),
       ("ES256K", some (.es "secp256k1" 32)),
       ("PS256", some (.ps 256)), ("PS384", some (.ps 384)), ("PS512", some (.ps 512)), ("EdDSA", some .eddsa)] := by
  decide +kernel

end Props.C01
