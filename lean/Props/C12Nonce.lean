import Model.NonceStore
import Generated.OAuth1
import Lemmas.List
/-
  C12, sentence 3 ("each combination of client, token, timestamp and nonce is accepted at most once, timestamps older
  than the configured window are refused") for the replay guard the integrations ship: a timestamp window without an
  upper bound over a nonce memory of finite duration.  Over every history in between, a key accepted at clock t1 is
  accepted again at t2 only if t2 ≥ t1 + ttl with the timestamp still inside the window; so the sentence holds for
  timestamps less than ttl − window ahead of the clock and is false for the rest (the known finding
  C12-future-timestamp…), with the shipped constants window = 300, ttl = 86400.
-/
namespace Props.C12Nonce
open Model.NonceStore

theorem stale_timestamp_refused (c : Cfg) (s : Store) (now ts : Int) (k : String) (h : now - ts > c.window) :
    step c s now ts k = (s, .staleTimestamp) := by
  simp [step, h]

/-- the store holds an entry for `k` that the cache will not forget before `E` -/
def Remembered (k : String) (E : Int) (s : Store) : Prop := ∃ e ∈ s, e.key = k ∧ E ≤ e.exp

theorem remembered_not_accepted (c : Cfg) (s : Store) (k : String) (E now ts : Int) (h : Remembered k E s)
    (hn : now < E) : (step c s now ts k).2 ≠ .accepted := by
  fun_cases step c s now ts k
  · nofun
  · nofun
  next hl =>
    obtain ⟨e, he, hk, hE⟩ := h
    refine absurd (List.any_eq_true.mpr ⟨e, he, ?_⟩) hl
    simp only [hk, beq_self_eq_true, Bool.true_and, decide_eq_true_eq]
    exact Int.lt_of_lt_of_le hn hE

theorem remembered_cons {s : Store} {k k' : String} {E x : Int} (h : Remembered k E s) (hx : k' = k → E ≤ x) :
    Remembered k E (⟨k', x⟩ :: s.filter (fun e => e.key != k')) := by
  obtain ⟨e, he, hk, hE⟩ := h
  by_cases hkk : k' = k
  · exact ⟨⟨k', x⟩, List.mem_cons_self, hkk, hx hkk⟩
  · refine ⟨e, List.mem_cons_of_mem _ (List.mem_filter.mpr ⟨he, ?_⟩), hk, hE⟩
    simpa [hk] using fun h : k = k' => hkk h.symm

theorem step_keeps_remembered (c : Cfg) (s : Store) (k k' : String) (E now ts : Int) (h : Remembered k E s)
    (hnow : k' = k → E ≤ now + c.ttl) : Remembered k E (step c s now ts k').1 := by
  fun_cases step c s now ts k'
  · exact h
  · exact remembered_cons h hnow
  · exact remembered_cons h hnow

theorem run_fst (c : Cfg) (rs : List Req) (s : Store) :
    (run c s rs).1 = rs.foldl (fun s r => (step c s r.now r.ts r.key).1) s :=
  List.fst_run_eq_foldl (fun _ => rfl) (fun _ _ _ => rfl) rs s

theorem run_keeps_remembered (c : Cfg) (k : String) (E : Int) (rs : List Req) (s : Store) (h : Remembered k E s)
    (hr : ∀ r ∈ rs, r.key = k → E ≤ r.now + c.ttl) : Remembered k E (run c s rs).1 :=
  run_fst c rs s ▸
    List.foldlRecOn rs _ h fun s hs r hm => step_keeps_remembered c s k r.key E r.now r.ts hs (hr r hm)

theorem accepted_is_remembered {c : Cfg} {s : Store} {now ts : Int} {k : String}
    (h : (step c s now ts k).2 = .accepted) :
    Remembered k (now + c.ttl) (step c s now ts k).1 := by
  revert h
  fun_cases step c s now ts k <;> intro h <;> cases h
  exact ⟨⟨k, now + c.ttl⟩, List.mem_cons_self, rfl, Int.le_refl _⟩

/-- **Every history in between**: a second acceptance of the same key needs the nonce memory to have expired while
    the timestamp is still inside the window -/
theorem second_acceptance_needs_expired_memory (c : Cfg) (s : Store) (t1 t2 ts : Int) (k : String) (mid : List Req)
    (hmid : ∀ r ∈ mid, t1 ≤ r.now)
    (h1 : (step c s t1 ts k).2 = .accepted)
    (h2 : (step c (run c (step c s t1 ts k).1 mid).1 t2 ts k).2 = .accepted) :
    t1 + c.ttl ≤ t2 ∧ t2 - ts ≤ c.window := by
  have hrem := run_keeps_remembered c k (t1 + c.ttl) mid _ (accepted_is_remembered h1)
    (fun r hr _ => Int.add_le_add_right (hmid r hr) _)
  refine ⟨Int.not_lt.mp fun hlt => remembered_not_accepted c _ k _ t2 ts hrem hlt h2, Int.not_lt.mp fun hw => ?_⟩
  rw [stale_timestamp_refused c _ t2 ts k hw] at h2
  cases h2

/-- the sentence as stated holds for every timestamp less than ttl − window ahead of the server clock -/
theorem accepted_at_most_once_partial (c : Cfg) (s : Store) (t1 t2 ts : Int) (k : String) (mid : List Req)
    (hmid : ∀ r ∈ mid, t1 ≤ r.now) (hts : ts - t1 < c.ttl - c.window)
    (h1 : (step c s t1 ts k).2 = .accepted) :
    (step c (run c (step c s t1 ts k).1 mid).1 t2 ts k).2 ≠ .accepted := by
  intro h2
  obtain ⟨ha, hb⟩ := second_acceptance_needs_expired_memory c s t1 t2 ts k mid hmid h1 h2
  omega

def shipped : Cfg := ⟨300, 86400⟩

/-- the constants the code ships NOW (regenerated): a 300 s timestamp window, HMAC-SHA1 as the only default signature
    method, and a nonce memory of one day in the Flask cache hooks and in both Django classes -/
theorem shipped_constants :
    Generated.OAuth1.expiryTime = 300 ∧ Generated.OAuth1.defaultSignatureMethods = ["HMAC-SHA1"] ∧
    Generated.OAuth1.flaskNonceExpires = 86400 ∧ Generated.OAuth1.flaskRegisterNonceExpires = 86400 ∧
    Generated.OAuth1.djangoServerNonceExpires = 86400 ∧ Generated.OAuth1.djangoProtectorNonceExpires = 86400 :=
  ⟨rfl, rfl, rfl, rfl, rfl, rfl⟩

theorem shipped_eq_generated : shipped.window = Generated.OAuth1.expiryTime ∧ shipped.ttl = Generated.OAuth1.flaskNonceExpires :=
  ⟨rfl, rfl⟩

/-- with the shipped constants: a request whose timestamp is less than 86 100 s ahead of the server clock is accepted at
    most once, whatever else the server sees in between -/
theorem shipped_accepted_at_most_once (s : Store) (t1 t2 ts : Int) (k : String) (mid : List Req)
    (hmid : ∀ r ∈ mid, t1 ≤ r.now) (hts : ts - t1 < 86100)
    (h1 : (step shipped s t1 ts k).2 = .accepted) :
    (step shipped (run shipped (step shipped s t1 ts k).1 mid).1 t2 ts k).2 ≠ .accepted :=
  accepted_at_most_once_partial shipped s t1 t2 ts k mid hmid (by simp only [shipped]; omega) h1

/-- … and it is false beyond: the shipped constants, a timestamp 90 000 s ahead, the same request 86 500 s later -/
theorem future_timestamp_accepted_twice :
    (run shipped [] [⟨1000000, 1090000, "n-1090000-ca"⟩, ⟨1086500, 1090000, "n-1090000-ca"⟩]).2 = [.accepted, .accepted] := by
  decide

/-- non-vacuity of the partial theorem: an ordinary request is accepted once and its replay refused -/
example : (run shipped [] [⟨1000000, 1000000, "n"⟩, ⟨1000010, 1000000, "n"⟩, ⟨1000400, 1000000, "n"⟩]).2
    = [.accepted, .replay, .staleTimestamp] := by decide

end Props.C12Nonce
