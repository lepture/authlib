import Model.ClientAssertion
import Props.C04
/-
  C07 (JWT assertion method): a client is authenticated by an assertion only if the signature
  verified under that client's key, issuer = subject = the client, the audience is the token
  endpoint, it is unexpired, its jti was not used before, and the client is registered for the
  method; and once an assertion has been accepted, the same (sub, jti) is never accepted again,
  whatever happens in between.
-/
namespace Props.C07Jwt
open Model Model.Claims Model.ClientAssertion Props.C04

theorem step_authenticated {tokenUrl : String} {s : St} {r : Req} {id : String}
    (h : (step tokenUrl s r).2 = .authenticated id) :
    r.typeOk = true ∧ r.sigOk = true ∧
    ∃ c cl key, r.claims = some c ∧ strOf (getD c "sub") = some id ∧
      s.clients.find? (fun cl => cl.id == id) = some cl ∧ cl.id = id ∧ cl.jwtMethod = true ∧ jtiKey c = some key ∧
      Claims.validate c (options tokenUrl (!s.used.contains key)) r.now leeway = none ∧
      (step tokenUrl s r).1.used = key :: s.used := by
  revert h
  fun_cases step tokenUrl s r <;> intro h <;> cases h
  next ht c hc sub hs cl hf hsig key hk hv hm =>
    cases (show cl.id = sub by simpa using List.find?_some hf)
    exact ⟨by simpa using ht, by simpa using hsig, c, cl, key, hc, hs, hf, rfl, hm, hk, hv, rfl⟩

theorem strOf_some {v : Val} {s : String} (h : strOf v = some s) : v = .atom (.str s) := by
  revert h
  fun_cases strOf v <;> intro h <;> cases h
  rfl

theorem authenticated_implies (tokenUrl : String) (hurl : tokenUrl ≠ "") (s : St) (r : Req) (id : String)
    (h : (step tokenUrl s r).2 = .authenticated id) :
    r.typeOk = true ∧ r.sigOk = true ∧
    ∃ c cl key, r.claims = some c ∧ cl ∈ s.clients ∧ cl.id = id ∧ cl.jwtMethod = true ∧
      getD c "sub" = .atom (.str id) ∧ (getD c "iss").pyEq (.atom (.str id)) = true ∧
      (∃ a, c.lookup "aud" = some a ∧ pyIn (.atom (.str tokenUrl)) (audList a) = true) ∧
      (∃ v q, c.lookup "exp" = some v ∧ v.numericDate = some q ∧ r.now - leeway ≤ q) ∧
      jtiKey c = some key ∧ key ∉ s.used ∧ (step tokenUrl s r).1.used = key :: s.used := by
  obtain ⟨ht, hsig, c, cl, key, hc, hs, hf, hid, hm, hk, hv, hused⟩ := step_authenticated h
  have hcf := conforms_of_validate_none hv
  have hsub := strOf_some hs
  -- the two `rfl` read the row of `"iss"` and its `validate` entry off the options table of the assertion validator
  have hiss := hcf.validator_ok "iss" _ (.eqClaim "sub") (by decide) rfl rfl
  rw [Validator.run, hsub] at hiss
  have hfresh : (!s.used.contains key) = true := hcf.validator_ok "jti" _ (.const _) (by decide) rfl rfl
  exact ⟨ht, hsig, c, cl, key, hc, List.mem_of_find?_eq_some hf, hid, hm, hsub, hiss,
    hcf.aud_contains rfl rfl rfl rfl hurl, hcf.exp_present rfl rfl, hk, by simpa using hfresh, hused⟩

theorem used_monotone (tokenUrl : String) (s : St) (r : Req) : ∀ k ∈ s.used, k ∈ (step tokenUrl s r).1.used := by
  intro k hk
  fun_cases step tokenUrl s r <;> try exact hk
  all_goals exact List.mem_cons_of_mem _ hk

theorem used_monotone_run (tokenUrl : String) (rs : List Req) : ∀ s, ∀ k ∈ s.used, k ∈ (run tokenUrl s rs).used :=
  fun _ k hk => List.foldlRecOn (motive := fun s => k ∈ s.used) rs _ hk fun s hs r _ => used_monotone tokenUrl s r k hs

/-- **replay**: once an assertion was accepted, after ANY further history an assertion with the same
    subject and jti does not authenticate -/
theorem replayed_assertion_never_authenticates (tokenUrl : String) (hurl : tokenUrl ≠ "") (s : St) (r : Req) (id : String)
    (h : (step tokenUrl s r).2 = .authenticated id) (later : List Req) (r' : Req) (c c' : Claims)
    (hc : r.claims = some c) (hc' : r'.claims = some c') (hsame : jtiKey c' = jtiKey c) (id' : String) :
    (step tokenUrl (run tokenUrl (step tokenUrl s r).1 later) r').2 ≠ .authenticated id' := by
  intro h'
  obtain ⟨-, -, _, _, key, hc0, -, -, -, -, -, -, -, hk, -, hused⟩ := authenticated_implies tokenUrl hurl s r id h
  obtain ⟨-, -, _, _, key', hc1, -, -, -, -, -, -, -, hk', hnot, -⟩ :=
    authenticated_implies tokenUrl hurl _ r' id' h'
  cases hc.symm.trans hc0
  cases hc'.symm.trans hc1
  cases (hk'.symm.trans (hsame.trans hk) : some key' = some key)
  exact hnot (used_monotone_run tokenUrl later _ key (hused ▸ List.mem_cons_self))

end Props.C07Jwt
