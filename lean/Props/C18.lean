import Model.Metadata
import Props.C18Reg
/-
  C18 (metadata part) — `validate()` accepts a document iff it satisfies the listed rules of RFC 8414 / OpenID Connect
  Discovery. `clause k d` is the rule of member k; the equivalence is proved per member and lifted to ANY registry key
  list, hence to the regenerated REGISTRY_KEYS of both classes. Guards of the `_partial` theorems (each with a witness
  outside it): ScalarLists — arrays contain no objects / arrays (Python's set() raises TypeError on them); ListTyped —
  grant_types_supported and the three *_auth_methods_supported members are arrays when given; NoLoopbackHttp — no URL
  member starts with "http://localhost:" (is_secure_transport accepts it; RFC 8414 says https).
-/
namespace Props.C18
open Model.Metadata Model.Url

def httpsStr (v : V) : Bool := match v with | .a (.str s) => isHttps s.toList | _ => false
def urlStr (v : V) : Bool := match v with | .a (.str s) => isValidUrl s.toList true | _ => false
def arrayOrAbsent (v : V) : Bool := v.isNull || v.isList
def listOf (v : V) (dflt : List A) : List A := match v with | .l xs => xs | _ => dflt
def codeOrImplicit (xs : List A) : Bool := mem (.str "authorization_code") xs || mem (.str "implicit") xs

/-- issuer: present, an https URL, no query, no fragment -/
def issuerRule (d : Doc) : Bool :=
  match mget d "issuer" with
  | .a (.str s) => s != "" && isHttps s.toList && (urlsplit s.toList).query.isEmpty && (urlsplit s.toList).fragment.isEmpty
  | _ => false

/-- authorization_endpoint: https when present; required when a grant type uses it (default: code, implicit) -/
def authorizationEndpointRule (d : Doc) : Bool :=
  let v := mget d "authorization_endpoint"
  if v.truthy then httpsStr v
  else !codeOrImplicit (listOf (getD d "grant_types_supported" (strs ["authorization_code", "implicit"])) [])

/-- token_endpoint: required and https unless only the implicit grant is supported -/
def tokenEndpointRule (d : Doc) : Bool :=
  (match mget d "grant_types_supported" with
   | .l [x] => x.pyEq (.str "implicit")
   | _ => false) ||
  ((mget d "token_endpoint").truthy && httpsStr (mget d "token_endpoint"))

def optionalHttpsRule (d : Doc) (k : String) : Bool := !(mget d k).truthy || httpsStr (mget d k)
def optionalUrlRule (d : Doc) (k : String) : Bool := !(mget d k).truthy || urlStr (mget d k)
def arrayRule (d : Doc) (k : String) : Bool := arrayOrAbsent (mget d k)
def responseTypesRule (d : Doc) : Bool := match mget d "response_types_supported" with | .l xs => !xs.isEmpty | _ => false

/-- signing-algorithm list: an array when given, present (non-empty) when JWT client authentication is
    advertised (default method list: client_secret_basic), never containing "none" -/
def algRule (d : Doc) (k methodsKey : String) : Bool :=
  arrayOrAbsent (mget d k) &&
  (!jwtMethods (listOf (getD d methodsKey (strs ["client_secret_basic"])) []) || (mget d k).truthy) &&
  !mem (.str "none") (listOf (mget d k) [])

def enumRule (d : Doc) (k : String) (allowed : List String) : Bool :=
  match mget d k with
  | .a .null => true
  | .l xs => subsetOf allowed xs
  | _ => false

def booleanRule (d : Doc) (k : String) : Bool :=
  match d.lookup k with
  | none => true
  | some (.a x) => x.pyEq (.bool true) || x.pyEq (.bool false)
  | some (.l _) => false

def jwksUriRuleOP (d : Doc) : Bool := (mget d "jwks_uri").truthy && httpsStr (mget d "jwks_uri")
def subjectTypesRule (d : Doc) : Bool := match mget d "subject_types_supported" with | .l xs => subsetOf ["pairwise", "public"] xs | _ => false
def idTokenAlgsRule (d : Doc) : Bool := match mget d "id_token_signing_alg_values_supported" with | .l xs => mem (.str "RS256") xs | _ => false

def clause (op : Bool) (k : String) (d : Doc) : Bool :=
  if k == "issuer" then issuerRule d
  else if k == "authorization_endpoint" then authorizationEndpointRule d
  else if k == "token_endpoint" then tokenEndpointRule d
  else if k == "jwks_uri" then (if op then jwksUriRuleOP d else optionalHttpsRule d k)
  else if k == "response_types_supported" then responseTypesRule d
  else if k == "subject_types_supported" then subjectTypesRule d
  else if k == "id_token_signing_alg_values_supported" then idTokenAlgsRule d
  else if k == "display_values_supported" then enumRule d k ["page", "popup", "touch", "wap"]
  else if k == "claim_types_supported" then enumRule d k ["normal", "aggregated", "distributed"]
  else if httpsKeys.contains k then optionalHttpsRule d k
  else if urlKeys.contains k then optionalUrlRule d k
  else if boolKeys.contains k then booleanRule d k
  else match algKeys.lookup k with
    | some mk => algRule d k mk
    | none => if arrayKeys.contains k then arrayRule d k else false

def conforms (op : Bool) (keys : List String) (d : Doc) : Bool := keys.all fun k => clause op k d

def ScalarLists (d : Doc) : Prop := ∀ k xs, d.lookup k = some (.l xs) → xs.all A.hashable = true
def ListTyped (d : Doc) : Prop :=
  ∀ k, k ∈ ["grant_types_supported", "token_endpoint_auth_methods_supported", "revocation_endpoint_auth_methods_supported",
            "introspection_endpoint_auth_methods_supported"] → d.lookup k = none ∨ ∃ xs, d.lookup k = some (.l xs)
def NoLoopbackHttp (d : Doc) : Prop := ∀ k s, d.lookup k = some (.a (.str s)) → isSecureTransport s.toList = isHttps s.toList

theorem lookup_of_mget {d : Doc} {k : String} {v : V} (h : mget d k = v) (hv : v ≠ .a .null) : d.lookup k = some v :=
  (Option.getD_eq_iff.mp h).resolve_right fun ⟨_, e⟩ => hv e.symm

/-- with it `simp` turns a chain of guards into the conjunction of the negated conditions -/
theorem err_guard {c : Prop} [Decidable c] {m : String} {r : R} : (if c then R.err m else r) = .ok ↔ ¬c ∧ r = .ok := by
  split <;> simp [*]

theorem secureStr_ok (v : V) (p : List Char → Bool) (m : String) :
    secureStr v p m = .ok ↔ ∃ s, v = .a (.str s) ∧ p s.toList = true := by
  fun_cases secureStr v p m <;> simp_all

theorem secureStr_https (d : Doc) (k : String) (hl : NoLoopbackHttp d) (m : String) :
    secureStr (mget d k) isSecureTransport m = .ok ↔ httpsStr (mget d k) = true := by
  rw [secureStr_ok]
  cases hv : mget d k with
  | l xs => simp [httpsStr]
  | a x =>
    cases x with
    | str s => simp [httpsStr, hl k s (lookup_of_mget hv (by simp))]
    | _ => simp [httpsStr]

theorem secureStr_url (v : V) (m : String) : secureStr v (fun s => isValidUrl s true) m = .ok ↔ urlStr v = true := by
  rw [secureStr_ok]
  cases v with
  | l xs => simp [urlStr]
  | a x => cases x <;> simp [urlStr]

theorem optionalHttps_iff (d : Doc) (k : String) (hl : NoLoopbackHttp d) :
    optionalHttps d k = .ok ↔ optionalHttpsRule d k = true := by
  unfold optionalHttps optionalHttpsRule
  by_cases ht : (mget d k).truthy = true <;> simp [ht, secureStr_https d k hl]

theorem optionalUrl_iff (d : Doc) (k : String) : optionalUrl d k = .ok ↔ optionalUrlRule d k = true := by
  unfold optionalUrl optionalUrlRule
  by_cases ht : (mget d k).truthy = true <;> simp [ht, secureStr_url]

theorem arrayValue_iff (d : Doc) (k : String) : arrayValue d k = .ok ↔ arrayRule d k = true := by
  unfold arrayValue arrayRule arrayOrAbsent
  cases h1 : (mget d k).isNull <;> cases h2 : (mget d k).isList <;> simp [h1, h2]

theorem issuer_iff (d : Doc) (hl : NoLoopbackHttp d) : validateIssuer d = .ok ↔ issuerRule d = true := by
  unfold validateIssuer issuerRule
  cases hv : mget d "issuer" with
  | l xs => simp [err_guard]
  | a x =>
    cases x with
    | str s => simp [err_guard, V.truthy, A.truthy, hl "issuer" s (lookup_of_mget hv (by simp)), and_assoc]
    | _ => simp [err_guard]

theorem responseTypes_iff (d : Doc) : validateResponseTypes d = .ok ↔ responseTypesRule d = true := by
  unfold validateResponseTypes responseTypesRule
  cases mget d "response_types_supported" <;> simp [V.truthy, V.isList, err_guard]

/-- the argument of `set()` in the validators -/
theorem getD_list_hashable (d : Doc) (k : String) (dflt : List String) (hs : ScalarLists d)
    (hk : d.lookup k = none ∨ ∃ xs, d.lookup k = some (.l xs)) :
    ∃ xs, getD d k (strs dflt) = .l xs ∧ xs.all A.hashable = true := by
  rcases hk with h | ⟨xs, h⟩
  · exact ⟨dflt.map A.str, by simp [getD, h, strs], by simp [A.hashable]⟩
  · exact ⟨xs, by simp [getD, h], hs k xs h⟩

theorem authorizationEndpoint_iff (d : Doc) (hs : ScalarLists d) (ht : ListTyped d) (hl : NoLoopbackHttp d) :
    validateAuthorizationEndpoint d = .ok ↔ authorizationEndpointRule d = true := by
  unfold validateAuthorizationEndpoint authorizationEndpointRule
  by_cases htr : (mget d "authorization_endpoint").truthy = true
  · simp only [htr, if_true]
    exact secureStr_https d _ hl _
  · obtain ⟨xs, hx, hh⟩ :=
      getD_list_hashable d "grant_types_supported" ["authorization_code", "implicit"] hs (ht _ (by simp))
    simp [htr, hx, pySet, hh, listOf, codeOrImplicit]

theorem tokenEndpointUrl_iff (d : Doc) (hl : NoLoopbackHttp d) :
    tokenEndpointUrl d = .ok ↔ ((mget d "token_endpoint").truthy && httpsStr (mget d "token_endpoint")) = true := by
  simp [tokenEndpointUrl, err_guard, secureStr_https d _ hl]

theorem tokenEndpoint_iff (d : Doc) (ht : ListTyped d) (hl : NoLoopbackHttp d) :
    validateTokenEndpoint d = .ok ↔ tokenEndpointRule d = true := by
  unfold validateTokenEndpoint tokenEndpointRule
  have hu := tokenEndpointUrl_iff d hl
  -- unless the grant types are exactly [implicit], both sides reduce to the two sides of `hu`
  rcases ht "grant_types_supported" (by simp) with h | ⟨xs, h⟩
  · rw [show mget d "grant_types_supported" = .a .null by simp [mget, h]]
    exact hu
  · rw [show mget d "grant_types_supported" = .l xs by simp [mget, h]]
    rcases xs with _ | ⟨x, _ | ⟨y, r⟩⟩
    · exact hu
    · by_cases hx : x.pyEq (.str "implicit") = true
      · simp [V.truthy, pyLen, hx]
      · simpa [V.truthy, pyLen, hx] using hu
    · exact hu

theorem algValues_iff (d : Doc) (k mk : String) (hs : ScalarLists d)
    (hmk : d.lookup mk = none ∨ ∃ xs, d.lookup mk = some (.l xs)) :
    algValues d k mk = .ok ↔ algRule d k mk = true := by
  unfold algValues algRule
  obtain ⟨ms, hx, hh⟩ := getD_list_hashable d mk ["client_secret_basic"] hs hmk
  simp only [hx, pySet, hh, if_true, listOf]
  cases mget d k with
  | l xs => cases xs <;> simp [V.isNull, V.isList, arrayOrAbsent, V.truthy, mem]
  | a x => cases x <;> simp [V.isNull, V.isList, arrayOrAbsent, V.truthy, A.truthy, mem]

theorem enumArray_iff (d : Doc) (k : String) (allowed : List String) (hs : ScalarLists d) :
    enumArray d k allowed = .ok ↔ enumRule d k allowed = true := by
  unfold enumArray enumRule
  cases hv : mget d k with
  | l xs => simp [V.isNull, hs k xs (lookup_of_mget hv (by simp))]
  | a x => cases x <;> simp [V.isNull]

theorem booleanValue_iff (d : Doc) (k : String) : booleanValue d k = .ok ↔ booleanRule d k = true := by
  unfold booleanRule
  fun_cases booleanValue d k <;> simp [*]

theorem jwksUriOP_iff (d : Doc) (hl : NoLoopbackHttp d) : validateJwksUriOP d = .ok ↔ jwksUriRuleOP d = true := by
  unfold validateJwksUriOP jwksUriRuleOP optionalHttps
  by_cases ht : (mget d "jwks_uri").truthy = true <;> simp [ht, secureStr_https d _ hl]

theorem subjectTypes_iff (d : Doc) (hs : ScalarLists d) : validateSubjectTypes d = .ok ↔ subjectTypesRule d = true := by
  unfold validateSubjectTypes subjectTypesRule
  cases hv : mget d "subject_types_supported" with
  | l xs => simp [V.isNull, hs _ xs (lookup_of_mget hv (by simp))]
  | a x => cases x <;> simp [V.isNull]

theorem idTokenAlgs_iff (d : Doc) : validateIdTokenAlgs d = .ok ↔ idTokenAlgsRule d = true := by
  unfold validateIdTokenAlgs idTokenAlgsRule
  cases mget d "id_token_signing_alg_values_supported" with
  | l xs => simp [V.isNull]
  | a x => cases x <;> simp [V.isNull]

theorem algKeys_methods_typed (d : Doc) (ht : ListTyped d) (k mk : String) (h : algKeys.lookup k = some mk) :
    d.lookup mk = none ∨ ∃ xs, d.lookup mk = some (.l xs) := by
  have hm := List.mem_of_lookup_eq_some h
  simp only [algKeys, List.mem_cons, Prod.mk.injEq, List.mem_nil_iff, or_false] at hm
  rcases hm with ⟨_, rfl⟩ | ⟨_, rfl⟩ | ⟨_, rfl⟩ <;> exact ht _ (by simp)

theorem validator_ok_iff_clause (op : Bool) (k : String) (d : Doc) (hs : ScalarLists d) (ht : ListTyped d)
    (hl : NoLoopbackHttp d) :
    validator op k d = .ok ↔ clause op k d = true := by
  -- `clause` dispatches on `k` exactly as `validator` does: in each branch it is the member's rule
  fun_cases validator op k d <;> simp only [clause, *, ↓reduceIte, Bool.false_eq_true]
  · exact issuer_iff d hl
  · exact authorizationEndpoint_iff d hs ht hl
  · exact tokenEndpoint_iff d ht hl
  · exact jwksUriOP_iff d hl
  · exact optionalHttps_iff d k hl
  · exact responseTypes_iff d
  · exact subjectTypes_iff d hs
  · exact idTokenAlgs_iff d
  · exact enumArray_iff d k _ hs
  · exact enumArray_iff d k _ hs
  · exact optionalHttps_iff d k hl
  · exact optionalUrl_iff d k
  · exact booleanValue_iff d k
  · exact algValues_iff d k _ hs (algKeys_methods_typed d ht k _ ‹_›)
  · exact arrayValue_iff d k
  · simp

theorem runValidators_ok_iff (op : Bool) (d : Doc) (ks : List String) :
    runValidators op d ks = .ok ↔ ∀ k ∈ ks, validator op k d = .ok := by
  induction ks with
  | nil => simp [runValidators]
  | cons k r ih =>
    simp only [runValidators, List.mem_cons, forall_eq_or_imp]
    cases hv : validator op k d with
    | ok => simpa using ih
    | err _ | crash _ => simp

/-- **validate() accepts iff the rules hold**, for any registry key list -/
theorem validate_ok_iff_conforms_partial (op : Bool) (ks : List String) (d : Doc)
    (hs : ScalarLists d) (ht : ListTyped d) (hl : NoLoopbackHttp d) :
    runValidators op d ks = .ok ↔ conforms op ks d = true := by
  rw [runValidators_ok_iff]
  simp only [conforms, List.all_eq_true]
  exact forall₂_congr fun k _ => validator_ok_iff_clause op k d hs ht hl

/-- … in particular for the REGISTRY_KEYS of the current classes -/
theorem as_metadata_valid_iff_rules_partial (d : Doc) (hs : ScalarLists d) (ht : ListTyped d) (hl : NoLoopbackHttp d) :
    validateAS d = .ok ↔ conforms false Generated.Metadata.asRegistryKeys d = true :=
  validate_ok_iff_conforms_partial false _ d hs ht hl

theorem op_metadata_valid_iff_rules_partial (d : Doc) (hs : ScalarLists d) (ht : ListTyped d) (hl : NoLoopbackHttp d) :
    validateOP d = .ok ↔ conforms true Generated.Metadata.opRegistryKeys d = true :=
  validate_ok_iff_conforms_partial true _ d hs ht hl

def loopbackDoc : Doc :=
  [("issuer", .a (.str "http://localhost:8080/as")), ("authorization_endpoint", .a (.str "https://as.example/authorize")),
   ("token_endpoint", .a (.str "https://as.example/token")), ("response_types_supported", .l [.str "code"])]

/-- non-vacuity: a full document satisfies the guards and is accepted -/
def goodDoc : Doc :=
  [("issuer", .a (.str "https://as.example")), ("authorization_endpoint", .a (.str "https://as.example/authorize")),
   ("token_endpoint", .a (.str "https://as.example/token")), ("response_types_supported", .l [.str "code"]),
   ("token_endpoint_auth_methods_supported", .l [.str "private_key_jwt"]), ("token_endpoint_auth_signing_alg_values_supported", .l [.str "RS256"])]

/-- the four evaluations over the regenerated registry keys, decided together: the kernel then dispatches on each key
    (a chain of string comparisons) once (DESIGN §3.1) -/
theorem registry_evaluations :
    ((Generated.Metadata.asRegistryKeys ++ Generated.Metadata.opRegistryKeys).all
      (fun k => validator true k [] != .crash "no-validator") = true) ∧
    (validateAS loopbackDoc = .ok ∧ conforms false Generated.Metadata.asRegistryKeys loopbackDoc = false) ∧
    (validateAS goodDoc = .ok ∧ conforms false Generated.Metadata.asRegistryKeys goodDoc = true) ∧
    validateAS (goodDoc ++ [("jwks_uri", .a (.str "http://as.example/jwks"))]) ≠ .ok := by
  decide +kernel

/-- every regenerated registry key has a rule (no member is validated by nothing) -/
theorem every_registry_key_has_a_validator :
    (Generated.Metadata.asRegistryKeys ++ Generated.Metadata.opRegistryKeys).all
      (fun k => validator true k [] != .crash "no-validator") = true := registry_evaluations.1

/-- is_secure_transport accepts http://localhost: — the document is accepted although its issuer is not on https -/
theorem loopback_http_issuer_accepted :
    validateAS loopbackDoc = .ok ∧ conforms false Generated.Metadata.asRegistryKeys loopbackDoc = false :=
  registry_evaluations.2.1

example : validateAS goodDoc = .ok ∧ conforms false Generated.Metadata.asRegistryKeys goodDoc = true :=
  registry_evaluations.2.2.1
example : validateAS (goodDoc ++ [("jwks_uri", .a (.str "http://as.example/jwks"))]) ≠ .ok := registry_evaluations.2.2.2

end Props.C18
