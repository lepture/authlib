import Model.Scope
import Lemmas.Text
/-
  C08 — Issued scope never exceeds what was requested, allowed and originally granted.
-/
namespace Props.C08
open Model.Text Model.Scope

theorem words_clientAllowed (allowed s : Str) :
    scopeToList (clientAllowed allowed s) =
      if s.isEmpty then [] else (scopeToList s).filter (fun w => (splitWs allowed).contains w) := by
  unfold clientAllowed
  split
  · simp [scopeToList, splitWs, splitWsAux]
  · unfold scopeToList listToScope
    apply splitWs_joinSp
    intro w hw
    exact splitWs_isWord s w (List.mem_filter.mp hw).1

theorem words_of_not_truthy {o : Option Str} (h : truthy o = false) : words o = [] := by
  cases o with
  | none => rfl
  | some s =>
    have : s = [] := by simpa [truthy] using h
    subst this
    rfl

theorem words_getAllowed (allowed : Str) (scope : Option Str) :
    words (getAllowedScope allowed scope) = (words scope).filter fun w => (splitWs allowed).contains w := by
  unfold getAllowedScope
  split
  next h =>
    cases scope with
    | none => cases h
    | some s =>
      have : s.isEmpty = false := by simpa [truthy] using h
      simp [words, words_clientAllowed, this]
  next h =>
    rw [words_of_not_truthy (by simpa using h)]
    rfl

theorem words_ite_truthy (o : Option Str) : words (if truthy o then o else none) = words o := by
  split
  · rfl
  next h => exact (words_of_not_truthy (by simpa using h)).symm

theorem words_generate (g : Gen) (allowed : Str) (scope : Option Str) :
    words (generate g allowed scope).response = (words scope).filter (fun w => (splitWs allowed).contains w) ∧
    words (generate g allowed scope).embedded =
      if g = .bearer then [] else (words scope).filter (fun w => (splitWs allowed).contains w) := by
  cases g
  · -- a plain bearer token embeds no scope
    simp only [generate, words_ite_truthy, words_getAllowed, if_true, true_and]
    rfl
  · -- RFC 7523 tokens filter the embedded scope through the allowance a second time; filtering twice is filtering once
    simp [generate, words_ite_truthy, words_getAllowed, List.filter_filter]
  · simp [generate, words_ite_truthy, words_getAllowed]

theorem generate_subset {g : Gen} {allowed : Str} {scope : Option Str} {w : Str}
    (hw : w ∈ words (generate g allowed scope).response ∨ w ∈ words (generate g allowed scope).embedded) :
    w ∈ words scope ∧ w ∈ splitWs allowed := by
  obtain ⟨h1, h2⟩ := words_generate g allowed scope
  rw [h1, h2] at hw
  rcases hw with hw | hw
  · simpa using hw
  · split at hw
    · cases hw
    · simpa using hw

/-- Response scope and embedded scope name the same words (JWT generators). -/
theorem embedded_eq_response (allowed : Str) (scope : Option Str) (g : Gen) (hg : g ≠ .bearer) :
    ∀ w, w ∈ words (generate g allowed scope).embedded ↔ w ∈ words (generate g allowed scope).response := by
  obtain ⟨h1, h2⟩ := words_generate g allowed scope
  rw [h1, h2, if_neg hg]
  exact fun _ => Iff.rfl

theorem validateRequested_iff (supported : Option (List Str)) (scope : Option Str) :
    validateRequested supported scope = true ↔ ∀ sup, supported = some sup → sup ≠ [] → ∀ w ∈ words scope, w ∈ sup := by
  fun_cases validateRequested supported scope
  next _ sup hc =>
    have hsup : sup ≠ [] := by
      rintro rfl
      simp at hc
    simp only [List.all_eq_true, List.contains_iff_mem, Option.some.injEq, words]
    exact ⟨fun h _ e _ => e ▸ h, fun h => h sup rfl hsup⟩
  next s _ hc =>
    simp only [true_iff, Option.some.injEq]
    rintro _ rfl hne w hw
    have : s = [] := by simpa [hne] using hc
    subst this
    cases hw
  next hno =>
    simp only [true_iff]
    intro sup hsup _ w hw
    cases scope with
    | none => cases hw
    | some s => exact absurd hsup (hno s sup rfl)

theorem validateTokenScope_sub {requested original : Option Str} (h : validateTokenScope requested original = true) :
    ∀ w ∈ words requested, w ∈ words original := by
  revert h
  fun_cases validateTokenScope requested original <;> intro h
  next hr =>
    rw [words_of_not_truthy (by simpa using hr)]
    exact fun w hw => nomatch hw
  · cases h
  · simpa [words] using h
  · cases h

/-- Core statement: for every grant, generator, supported set, client allowance, requested and
    original scope: a token is issued only with words that are requested-or-original, allowed,
    supported (when configured and the request named a scope), and — for refresh — original. -/
theorem issued_subset (gr : Grant) (g : Gen) (supported : Option (List Str)) (allowed : Str)
    (requested original : Option Str) (i : Issued)
    (h : tokenRequest gr g supported allowed requested original = .issued i) :
    ∀ w, (w ∈ words i.response ∨ w ∈ words i.embedded) →
      w ∈ splitWs allowed ∧
      (gr ≠ .refresh → w ∈ words requested ∧
          (∀ sup, supported = some sup → sup ≠ [] → w ∈ sup)) ∧
      (gr = .refresh → w ∈ words original ∧ (truthy requested → w ∈ words requested)) := by
  intro w hw
  have direct : validateRequested supported requested = true → w ∈ words requested →
      w ∈ words requested ∧ ∀ sup, supported = some sup → sup ≠ [] → w ∈ sup :=
    fun hv h1 => ⟨h1, fun sup hs hne => (validateRequested_iff _ _).mp hv sup hs hne w h1⟩
  revert h
  -- in every issuing branch `i` is `generate` of some scope, so `generate_subset` applies to `hw`
  fun_cases tokenRequest gr g supported allowed requested original <;> intro h <;> cases h
  next hv => exact ⟨(generate_subset hw).2, fun _ => direct hv (generate_subset hw).1, fun e => nomatch e⟩
  next hv => exact ⟨(generate_subset hw).2, fun _ => direct hv (generate_subset hw).1, fun e => nomatch e⟩
  next hv =>
    obtain ⟨h1, h2⟩ := generate_subset hw
    refine ⟨h2, fun hne => absurd rfl hne, fun _ => ?_⟩
    split at h1
    · exact ⟨validateTokenScope_sub hv w h1, fun _ => h1⟩
    next hr => exact ⟨h1, fun ht => absurd ht hr⟩

/-- A request naming a scope outside the configured supported set fails with invalid_scope. -/
theorem unsupported_is_invalid_scope (gr : Grant) (hgr : gr ≠ .refresh) (g : Gen) (sup : List Str)
    (allowed : Str) (s : Str) (original : Option Str) (w : Str)
    (hw : w ∈ scopeToList s) (hns : w ∉ sup) (hsup : sup ≠ []) :
    tokenRequest gr g (some sup) allowed (some s) original = .invalidScope := by
  have hv : validateRequested (some sup) (some s) = false :=
    Bool.eq_false_iff.mpr fun h => hns ((validateRequested_iff _ _).mp h sup rfl hsup w hw)
  cases gr with
  | refresh => exact absurd rfl hgr
  | direct => simp [tokenRequest, hv]
  | stored => simp [tokenRequest, hv]

/-- A refresh request that tries to widen the original scope fails with invalid_scope. -/
theorem refresh_widen_is_invalid_scope (g : Gen) (supported : Option (List Str)) (allowed s : Str)
    (original : Option Str) (w : Str) (hw : w ∈ scopeToList s) (hno : w ∉ words original) :
    tokenRequest .refresh g supported allowed (some s) original = .invalidScope := by
  have : validateTokenScope (some s) original = false :=
    Bool.eq_false_iff.mpr fun h => hno (validateTokenScope_sub h w hw)
  simp [tokenRequest, this]

/-- non-vacuity: a concrete request where something is issued and something is filtered out -/
example : tokenRequest .direct .jwt7523 (some ["a".toList, "b".toList, "z".toList]) "a b".toList
    (some "a z".toList) none = .issued { response := some "a".toList, embedded := some "a".toList } := by
  decide +kernel

/-- RFC 6749 §3.3 `scope-token = 1*NQCHAR` (%x21 / %x23-5B / %x5D-7E): no such character is white space to
    `str.split()` -/
theorem nqchar_not_space (c : Char) (h : 0x21 ≤ c.toNat ∧ c.toNat ≤ 0x7e) : isPySpace c = false := by
  unfold isPySpace
  simp only [Bool.or_eq_false_iff, Bool.and_eq_false_iff, decide_eq_false_iff_not]
  omega

/-- hence a scope token is never split, whatever punctuation it contains (`,` `;` `+` `:` `/` …): the scope string of
    tokens joined by single spaces splits into exactly those tokens -/
theorem scope_tokens_roundtrip (ws : List Str) (h : ∀ w ∈ ws, w ≠ [] ∧ ∀ c ∈ w, 0x21 ≤ c.toNat ∧ c.toNat ≤ 0x7e) :
    scopeToList (listToScope ws) = ws := by
  unfold scopeToList listToScope
  exact splitWs_joinSp ws (fun w hw => ⟨(h w hw).1, fun c hc => nqchar_not_space c ((h w hw).2 c hc)⟩)

/-- in particular a comma-joined name is ONE scope token -/
example : scopeToList "read,write admin".toList = ["read,write".toList, "admin".toList] := by decide +kernel

end Props.C08
