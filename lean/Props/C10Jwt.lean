import Model.JwtAccessToken
import Props.C04
/-
  C10 (RFC 9068 part) — a JWT access token is served only if it decoded (signature, algorithm and key
  accepted: C01 / C02), carries the resource server's issuer and audience, is unexpired, has every
  required claim and a fitting `typ`, and satisfies the required scope (403 otherwise) and groups /
  roles / entitlements.
-/
namespace Props.C10Jwt
open Model Model.Claims Model.JwtAccessToken Model.Resource Props.C04

theorem validate_none {typ : Val} {c : Claims} {issuer rs : String} {now : Int} :
    JwtAccessToken.validate typ c issuer rs now = none ↔
      typErr typ = none ∧ Claims.validate c (options issuer rs) now 0 = none ∧ extraChecks c = none := by
  simp only [JwtAccessToken.validate, orElse'_eq_none]

theorem served_implies (decoded : Option (Val × Claims)) (issuer rs : String) (now : Int) (r : Required)
    (h : serve decoded issuer rs now r = .served) :
    ∃ typ c, decoded = some (typ, c) ∧ typErr typ = none ∧ Claims.validate c (options issuer rs) now 0 = none ∧
      extraChecks c = none ∧ insufficient (getD c "scope") r.scopes = false ∧ insufficient (getD c "groups") r.groups = false ∧
      insufficient (getD c "roles") r.roles = false ∧ insufficient (getD c "entitlements") r.entitlements = false := by
  revert h
  fun_cases serve decoded issuer rs now r <;> intro h <;> cases h
  next typ c hv h1 h2 h3 h4 =>
    obtain ⟨e1, e2, e3⟩ := validate_none.mp hv
    exact ⟨typ, c, rfl, e1, e2, e3, by simpa using h1, by simpa using h2, by simpa using h3, by simpa using h4⟩

theorem served_some {typ : Val} {c : Claims} {issuer rs : String} {now : Int} {r : Required}
    (h : serve (some (typ, c)) issuer rs now r = .served) :
    typErr typ = none ∧ Claims.validate c (options issuer rs) now 0 = none := by
  obtain ⟨_, _, hd, h1, h2, _⟩ := served_implies _ issuer rs now r h
  cases hd
  exact ⟨h1, h2⟩

/-- a token that did not decode (bad signature, disallowed algorithm, unknown kid, malformed) is invalid_token -/
theorem undecodable_is_invalid_token (issuer rs : String) (now : Int) (r : Required) :
    serve none issuer rs now r = .invalidToken := rfl

/-- **a served token is for this resource server, from this issuer, unexpired, complete** -/
theorem served_token_is_valid (typ : Val) (c : Claims) (issuer rs : String) (now : Int) (r : Required) (hrs : rs ≠ "")
    (h : serve (some (typ, c)) issuer rs now r = .served) :
    (getD c "iss").pyEq (.atom (.str issuer)) = true ∧
    (∃ a, c.lookup "aud" = some a ∧ pyIn (.atom (.str rs)) (audList a) = true) ∧
    (∃ v q, c.lookup "exp" = some v ∧ v.numericDate = some q ∧ now ≤ q) ∧
    (∀ k ∈ ["iss", "exp", "aud", "sub", "client_id", "iat", "jti"], ∃ v, c.lookup k = some v ∧ v.truthy = true) := by
  have hc := conforms_of_validate_none (served_some h).2
  refine ⟨hc.validator_ok "iss" _ (.eq (.atom (.str issuer))) (by decide) rfl rfl,
    hc.aud_contains rfl rfl rfl rfl hrs, by simpa only [Int.sub_zero] using hc.exp_present rfl rfl, ?_⟩
  intro k hk
  simp only [List.mem_cons, List.mem_nil_iff, or_false] at hk
  rcases hk with rfl | rfl | rfl | rfl | rfl | rfl | rfl <;> exact hc.essential_ok _ _ rfl rfl

/-- an expired token is never served -/
theorem expired_never_served (typ : Val) (c : Claims) (issuer rs : String) (now q : Int) (r : Required) (v : Val)
    (hv : c.lookup "exp" = some v) (hq : v.numericDate = some q) (hlt : q < now) :
    serve (some (typ, c)) issuer rs now r ≠ .served :=
  fun h => expired_never_accepted c (options issuer rs) now 0 q v hv hq (by omega) (served_some h).2

/-- a `typ` header that is present and is not (case-insensitively) at+jwt / application/at+jwt is never served -/
theorem wrong_typ_never_served (typ : Val) (c : Claims) (issuer rs : String) (now : Int) (r : Required)
    (ht : typ.truthy = true) (hbad : ∀ s, typ = .atom (.str s) → ["at+jwt", "application/at+jwt"].contains (lowerAscii s) = false) :
    serve (some (typ, c)) issuer rs now r ≠ .served := by
  intro h
  have hte := (served_some h).1
  unfold typErr at hte
  cases typ with
  | list xs => simp [ht] at hte
  | atom a =>
    cases a with
    | str s =>
      simp only [ht, Bool.true_and, hbad s rfl, Bool.not_false, if_true] at hte
      cases hte
    | _ => simp [ht] at hte

/-- 403 insufficient_scope is only ever the answer for a token that is otherwise valid -/
theorem insufficient_scope_only_for_valid_token (decoded : Option (Val × Claims)) (issuer rs : String) (now : Int) (r : Required)
    (h : serve decoded issuer rs now r = .insufficientScope) :
    ∃ typ c, decoded = some (typ, c) ∧ JwtAccessToken.validate typ c issuer rs now = none ∧ insufficient (getD c "scope") r.scopes = true := by
  revert h
  fun_cases serve decoded issuer rs now r <;> intro h <;> cases h
  next typ c hv hs => exact ⟨typ, c, rfl, hv, hs⟩

/-- the decision is one of the three RFC 6750 outcomes -/
theorem decision_is_served_401_or_403 (decoded : Option (Val × Claims)) (issuer rs : String) (now : Int) (r : Required) :
    serve decoded issuer rs now r = .served ∨ serve decoded issuer rs now r = .invalidToken ∨
    serve decoded issuer rs now r = .insufficientScope := by
  fun_cases serve decoded issuer rs now r <;> simp

end Props.C10Jwt
