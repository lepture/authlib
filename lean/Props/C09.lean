import Lemmas.Provider
/-
  C09 — token lifecycle over every history: refresh only for an unrevoked refresh token of the same
  client (and the replaced credential is revoked); a token revoked by its owner stays refused and
  inactive forever; foreign / unknown revocations change nothing; expired and unknown tokens are
  refused and inactive.
-/
namespace Props.C09
open Model Model.Provider

def AllRevoked (s : Store) (n : Nat) : Prop := ∀ t ∈ s.tokens, t.access = n → isRevoked t = true

/-- what makes a token issued later differ in its number from every revoked one -/
def Bounded (s : Store) : Prop := ∀ t ∈ s.tokens, t.access ≤ s.fresh

theorem revokeTok_mem {ts : List TokRec} {n : Nat} {a r : Bool} {t' : TokRec} (h : t' ∈ revokeTok ts n a r) :
    ∃ t ∈ ts, t'.access = t.access ∧ (isRevoked t = true → isRevoked t' = true) ∧
      (t.access = n → a = true → isRevoked t' = true) := by
  obtain ⟨t, ht, rfl⟩ := List.mem_map.mp h
  refine ⟨t, ht, ?_⟩
  split
  · refine ⟨rfl, ?_, fun _ ha => ?_⟩
    · simp only [isRevoked, Bool.or_eq_true]
      exact fun h => h.imp .inl .inl
    · simp only [isRevoked, ha, Bool.or_true, Bool.true_or]
  next hn =>
    exact ⟨rfl, id, fun h => absurd (beq_iff_eq.mpr h) hn⟩

theorem keeps_revoke {s : Store} (k : Nat) (a r : Bool) (hb : Bounded s) :
    Bounded { s with tokens := revokeTok s.tokens k a r } ∧
    ∀ n, AllRevoked s n → AllRevoked { s with tokens := revokeTok s.tokens k a r } n := by
  refine ⟨fun t' ht' => ?_, fun n hall t' ht' hacc => ?_⟩
  all_goals obtain ⟨t, ht, h1, h2, _⟩ := revokeTok_mem ht'
  · exact h1 ▸ hb t ht
  · exact h2 (hall t ht (h1 ▸ hacc))

theorem keeps_issue {s : Store} (t : TokRec) (f : Nat) (ht : t.access = s.fresh + 1) (hf : s.fresh + 1 ≤ f)
    (hb : Bounded s) :
    Bounded { s with fresh := f, tokens := s.tokens ++ [t] } ∧
    ∀ n ≤ s.fresh, AllRevoked s n → AllRevoked { s with fresh := f, tokens := s.tokens ++ [t] } n := by
  refine ⟨fun x hx => ?_, fun n hn hall x hx hn' => ?_⟩
  all_goals rcases List.mem_append.mp hx with hx | hx
  · exact Nat.le_trans (hb x hx) (Nat.le_of_succ_le hf)
  · rw [List.mem_singleton.mp hx, ht]
    exact hf
  · exact hall x hx hn'
  · rw [List.mem_singleton.mp hx, ht] at hn'
    omega

theorem effect_keeps {s : Store} {op : Op} {s' : Store} (h : Effect s op s') (hb : Bounded s) :
    Bounded s' ∧ ∀ n ≤ s.fresh, AllRevoked s n → AllRevoked s' n := by
  have plain : s'.tokens = s.tokens → Bounded s' ∧ ∀ n ≤ s.fresh, AllRevoked s n → AllRevoked s' n := by
    intro ht
    unfold Bounded AllRevoked
    rw [ht]
    exact ⟨fun t ht => Nat.le_trans (hb t ht) h.fresh_le, fun _ _ h => h⟩
  cases h
  case redeem | issue =>
    exact keeps_issue _ _ (mkToken_access ..) (mkToken_snd_ge ..) hb
  case refresh n =>
    have h1 := keeps_revoke n true true hb
    exact (keeps_issue _ _ (mkToken_access ..) (mkToken_snd_ge ..) h1.1).imp_right
      fun h2 k hk hall => h2 k hk (h1.2 k hall)
  case revoke n r =>
    exact (keeps_revoke n true r hb).imp_right fun keep m _ => keep m
  all_goals exact plain rfl

theorem run_preserves (ops : List Op) (n : Nat) (s : Store) (hb : Bounded s) (hn : n ≤ s.fresh)
    (ha : AllRevoked s n) : AllRevoked (run s ops) n :=
  (List.foldlRecOn (motive := fun s => Bounded s ∧ n ≤ s.fresh ∧ AllRevoked s n) ops _ ⟨hb, hn, ha⟩
    fun s ⟨hb, hn, ha⟩ op _ =>
      have e := step_effect s op
      ⟨(effect_keeps e hb).1, Nat.le_trans hn e.fresh_le, (effect_keeps e hb).2 n hn ha⟩).2.2

/-- `Bounded` holds in every reachable state (so the hypotheses below are satisfiable everywhere) -/
theorem bounded_reachable (ops : List Op) : ∀ s, Bounded s → Bounded (run s ops) :=
  fun _ h => List.foldlRecOn ops _ h fun s hs op _ => (effect_keeps (step_effect s op) hs).1

theorem bounded_empty (s : Store) (h : s.tokens = []) : Bounded s :=
  fun _ ht => absurd (h ▸ ht) List.not_mem_nil

theorem queryToken_some {s : Store} {r : Ref} {hint : Option String} {t : TokRec} :
    queryToken s r hint = some t →
    (match r with
      | .at n => s.tokens.find? fun t => t.access == n
      | .rt n => s.tokens.find? fun t => t.refresh == some n
      | _ => none) = some t := by
  fun_cases queryToken s r hint <;> intro h
  -- where the strict variant does not look, `h : none = some t`
  all_goals first | exact h | cases h

theorem queryToken_at_spec {s : Store} {n : Nat} {hint : Option String} {t : TokRec}
    (h : queryToken s (.at n) hint = some t) : t ∈ s.tokens ∧ t.access = n :=
  have key : s.tokens.find? (fun t => t.access == n) = some t := queryToken_some h
  ⟨List.mem_of_find?_eq_some key, by simpa using List.find?_some key⟩

theorem access_refused (s : Store) (n : Nat) (req : Option (List Text.Str))
    (h : ∀ t ∈ s.tokens, t.access = n → isExpired s t = true ∨ isRevoked t = true) :
    (step s (.access (some (.at n)) req)).2.status = 401 := by
  simp only [step]
  cases hf : s.tokens.find? (fun (t : TokRec) => t.access == n) with
  | none => rfl
  | some t =>
    rcases h t (List.mem_of_find?_eq_some hf) (by simpa using List.find?_some hf) with h | h <;> simp [h, err]

theorem introspect_revoked_inactive (s : Store) (auth : Auth) (n : Nat) (hint : Option String) (h : AllRevoked s n) :
    (step s (.introspect auth (some (.at n)) hint)).2.active ≠ some true := by
  generalize hop : Op.introspect auth (some (.at n)) hint = op
  fun_cases step s op <;> cases hop <;> intro h' <;> try cases h'
  next _ _ t _ hlive _ _ hq =>
    obtain ⟨hm, hp⟩ := queryToken_at_spec hq
    exact hlive (by simp [h t hm hp])

theorem owner_revoke_revokes (s : Store) (auth : Auth) (n : Nat) (hint : Option String) (c : Client) (m : String)
    (t : TokRec) (ha : authClient s auth secretMethods = some (c, m)) (hq : queryToken s (.at n) hint = some t)
    (hown : t.client = c.id)
    (hhint : truthyS hint = false ∨ hint = some "access_token" ∨ hint = some "refresh_token") :
    (step s (.revoke auth (some (.at n)) hint)).2.status = 200 ∧
    AllRevoked (step s (.revoke auth (some (.at n)) hint)).1 n := by
  have hacc : t.access = n := (queryToken_at_spec hq).2
  have hh : (truthyS hint && !(["access_token", "refresh_token"].contains (hint.getD ""))) = false := by
    rcases hhint with h | rfl | rfl
    · simp [h]
    · rfl
    · rfl
  have hcl : (t.client != c.id) = false := by simp [hown]
  simp only [step, ha, hh, hq, hcl, Bool.false_eq_true, if_false]
  refine ⟨trivial, fun t' ht' hacc' => ?_⟩
  obtain ⟨t0, _, h1, _, h3⟩ := revokeTok_mem ht'
  exact h3 (by rw [← h1, hacc', hacc]) rfl

/-- **Revocation by the owner is permanent**: after the owner's request was answered, whatever
    requests follow, the token is refused by the resource protector and reported inactive. -/
theorem owner_revoke_is_permanent (s : Store) (hb : Bounded s) (auth : Auth) (n : Nat) (hint : Option String)
    (c : Client) (m : String) (t : TokRec) (ha : authClient s auth secretMethods = some (c, m))
    (hq : queryToken s (.at n) hint = some t) (hown : t.client = c.id)
    (hhint : truthyS hint = false ∨ hint = some "access_token" ∨ hint = some "refresh_token")
    (later : List Op) (req : Option (List Text.Str)) (auth' : Auth) (hint' : Option String) :
    let s' := run (step s (.revoke auth (some (.at n)) hint)).1 later
    (step s' (.access (some (.at n)) req)).2.status = 401 ∧
    (step s' (.introspect auth' (some (.at n)) hint')).2.active ≠ some true := by
  intro s'
  have h1 := owner_revoke_revokes s auth n hint c m t ha hq hown hhint
  obtain ⟨hm, hp⟩ := queryToken_at_spec hq
  have hn : n ≤ s.fresh := hp ▸ hb t hm
  have e := step_effect s (.revoke auth (some (.at n)) hint)
  have hall : AllRevoked s' n := run_preserves later n _ (effect_keeps e hb).1 (Nat.le_trans hn e.fresh_le) h1.2
  exact ⟨access_refused s' n req fun t ht hn => .inr (hall t ht hn),
    introspect_revoked_inactive s' auth' n hint' hall⟩

/-- a revocation request made by a different client is refused and leaves the store untouched -/
theorem foreign_revoke_refused_and_frame (s : Store) (auth : Auth) (ref : Ref) (hint : Option String) (c : Client) (m : String)
    (t : TokRec) (ha : authClient s auth secretMethods = some (c, m)) (hq : queryToken s ref hint = some t)
    (hforeign : t.client ≠ c.id) (hhint : (truthyS hint && !(["access_token", "refresh_token"].contains (hint.getD ""))) = false) :
    step s (.revoke auth (some ref) hint) = (s, err 400 "invalid_grant") := by
  have hcl : (t.client != c.id) = true := by simp [hforeign]
  simp only [step, ha, hhint, hq, hcl, Bool.false_eq_true, if_false, if_true]

/-- revoking an unknown token still answers 200 and changes nothing -/
theorem unknown_revoke_200_and_frame (s : Store) (auth : Auth) (ref : Ref) (hint : Option String) (c : Client) (m : String)
    (ha : authClient s auth secretMethods = some (c, m)) (hq : queryToken s ref hint = none)
    (hhint : (truthyS hint && !(["access_token", "refresh_token"].contains (hint.getD ""))) = false) :
    step s (.revoke auth (some ref) hint) = (s, { status := 200 }) := by
  simp only [step, ha, hhint, hq, Bool.false_eq_true, if_false]

/-- unknown and expired tokens are refused by the resource protector -/
theorem expired_or_unknown_refused (s : Store) (n : Nat) (req : Option (List Text.Str))
    (h : ∀ t ∈ s.tokens, t.access = n → isExpired s t = true) :
    (step s (.access (some (.at n)) req)).2.status = 401 :=
  access_refused s n req fun t ht hn => .inl (h t ht hn)

/-- a refresh succeeds only for an unrevoked refresh token presented by the client it was issued
    to, and the credential it replaces is revoked in the same step -/
theorem refresh_ok_implies_unrevoked_same_client (s : Store) (hb : Bounded s) (auth : Auth) (token : Option Ref)
    (scope : Option Text.Str) (a : Nat) (h : (step s (.refresh auth token scope)).2.access = some a) :
    ∃ c m old r, authClient s auth allMethods = some (c, m) ∧ token = some (.rt r) ∧ old ∈ s.tokens ∧
      old.refresh = some r ∧ old.refreshRevoked = false ∧ old.client = c.id ∧
      AllRevoked (step s (.refresh auth token scope)).1 old.access := by
  generalize hop : Op.refresh auth token scope = op at h ⊢
  revert h
  fun_cases step s op <;> cases hop <;> intro h <;> try cases h
  next c m ref _ old hf hcl _ _ ha _ _ =>
    cases ref with
    | rt r =>
      have hp := List.find?_some hf
      simp only [Bool.and_eq_true, beq_iff_eq, Bool.not_eq_true'] at hp
      have hmem := List.mem_of_find?_eq_some hf
      refine ⟨c, m, old, r, ha, rfl, hmem, hp.1, hp.2, by simpa using hcl, fun t' ht' hacc' => ?_⟩
      rcases List.mem_append.mp ht' with ht' | ht'
      · obtain ⟨t0, _, h1, _, h3⟩ := revokeTok_mem ht'
        exact h3 (by rw [← h1, hacc']) rfl
      · -- the new token is numbered above every stored one
        rw [List.mem_singleton.mp ht', mkToken_access] at hacc'
        have := hb old hmem
        omega
    | _ => exact nomatch (hf : none = some old)

end Props.C09
