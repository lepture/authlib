import Generated.KeyFamily
/-
  C20 — "No value of an attacker-controlled … header … escapes as an unhandled exception": the header's `alg` is the
  attacker's, the verification / decryption key is the server's. `Generated/KeyFamily.lean` is the table of what
  `prepare_key` of every registered JWS and JWE algorithm does with a key of every kind (oct, RSA, EC, OKP Ed25519,
  OKP X25519) in every form (Key object, JWK dict, PEM text), observed on the current code by the extractor.
-/
namespace Props.C20Keys
open Generated.KeyFamily

def outcome (r : String × String × String × String × String × String) : String := r.2.2.2.2.2

/-- the three facts about the table, decided together (DESIGN §3.1) -/
theorem key_family_table :
    (∀ r ∈ prepareKey, outcome r = "ok" ∨ outcome r = "ValueError") ∧
    prepareKey.length = 14 * ((prepareKey.map (fun r => (r.1, r.2.1))).eraseDups.length) ∧
    (prepareKey.filter fun r => outcome r == "ok").length > 50 := by
  decide +kernel

/-- every cell is success or the documented ValueError — never KeyError / TypeError / AttributeError (fix b1a3430) -/
theorem prepare_key_never_crashes : ∀ r ∈ prepareKey, outcome r = "ok" ∨ outcome r = "ValueError" :=
  key_family_table.1

/-- the table is the full product it claims to be (non-vacuity): both registries, all five key kinds, 14 forms per
    algorithm -/
example : prepareKey.length = 14 * ((prepareKey.map (fun r => (r.1, r.2.1))).eraseDups.length) := key_family_table.2.1
example : (prepareKey.filter fun r => outcome r == "ok").length > 50 := key_family_table.2.2

end Props.C20Keys
