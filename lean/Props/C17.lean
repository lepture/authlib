import Model.AsyncRefresh
/-
  C17 — for every number of coroutines, every schedule and every behaviour of the token endpoint:
  mutual exclusion of the refresh section, at most one successful refresh, callback exactly once per
  successful refresh, no protected request ever carries the expired token, a failed refresh sends
  nothing for its caller; with a succeeding endpoint exactly one refresh request is made.
-/
namespace Props.C17
open Model.AsyncRefresh

def holding (p : Pc) : Bool := p == .inLock || p == .awaitResp || p == .awaitCb

def pendingResp (s : St) : Nat := match s.lock with
  | some i => if s.pc i = .awaitResp then 1 else 0
  | none => 0

def pendingCb (s : St) : Nat := match s.lock with
  | some i => if s.pc i = .awaitCb then 1 else 0
  | none => 0

/-- `lockOk`: the lock is held exactly by the coroutine that is inside the refresh section. `ver`, `okLe`, `respExpired`: the
    token version counts the successful refreshes, and there is at most one, since a refresh request is only in flight while
    the version is still 0. `cbLive`, `readyLive`, `sentLive`: whoever is past the refresh sees a live token. `doneSent`,
    `sentCount`, `cbCount`, `noCb`: the counters account for every protected request, refresh request and callback
    (`pendingResp`, `pendingCb`: the one in flight, if any). -/
structure Inv (s : St) : Prop where
  lockOk : ∀ i, s.lock = some i ↔ holding (s.pc i) = true
  ver : s.tokenVer = s.refreshOk
  okLe : s.refreshOk ≤ 1
  respExpired : ∀ i, s.pc i = .awaitResp → s.tokenVer = 0
  cbLive : ∀ i, s.pc i = .awaitCb → s.tokenVer ≠ 0 ∧ s.hasCb = true
  readyLive : ∀ i, s.pc i = .ready → s.tokenVer ≠ 0
  sentLive : ∀ i v, s.sentBy i = some v → v ≠ 0 ∧ v ≤ s.tokenVer
  doneSent : ∀ i, s.pc i = .done ↔ s.sentBy i ≠ none
  sentCount : s.refreshSent = s.refreshOk + s.failures + pendingResp s
  cbCount : s.hasCb = true → s.callbacks + pendingCb s = s.refreshOk
  noCb : s.hasCb = false → s.callbacks = 0

theorem inv_init (hasCb : Bool) : Inv (init hasCb) := by
  refine ⟨?_, rfl, by simp [init], ?_, ?_, ?_, ?_, ?_, by simp [init, pendingResp], by simp [init, pendingCb],
    by simp [init]⟩
  all_goals simp [init, holding]

theorem holding_unique {s : St} (h : Inv s) (i j : Nat) (hi : holding (s.pc i) = true) (hj : holding (s.pc j) = true) :
    i = j :=
  Option.some.inj (((h.lockOk i).mpr hi).symm.trans ((h.lockOk j).mpr hj))

theorem Inv.lock_eq {s : St} (h : Inv s) {i : Nat} {q : Pc} (hpi : s.pc i = q) (hq : holding q = true) :
    s.lock = some i :=
  (h.lockOk i).mpr (hpi ▸ hq)

theorem setPc_same (s : St) (i : Nat) (p : Pc) : setPc s i p i = p := by simp [setPc]

theorem setPc_other (s : St) (i j : Nat) (p : Pc) (h : j ≠ i) : setPc s i p j = s.pc j := by simp [setPc, h]

theorem setPc_cases {s : St} {i : Nat} {p : Pc} {Q : Pc → Nat → Prop} (hi : Q p i)
    (ho : ∀ j, j ≠ i → Q (s.pc j) j) : ∀ j, Q (setPc s i p j) j := by
  intro j
  by_cases hji : j = i
  · rw [hji, setPc_same]
    exact hi
  · rw [setPc_other s i j p hji]
    exact ho j hji

theorem at_frame {s : St} {c : Pc} {P : Prop} (h : ∀ j, s.pc j = c → P) (i : Nat) {p : Pc} (hp : p ≠ c) :
    ∀ j, setPc s i p j = c → P :=
  setPc_cases (Q := fun x _ => x = c → P) (fun e => absurd e hp) fun j _ => h j

/-- the holder `i` of the lock moves: nobody is then at another holding place `c`, so any clause about `c` holds -/
theorem nobody_at {s : St} (h : Inv s) {i : Nat} (hi : holding (s.pc i) = true) {c p : Pc} (hc : holding c = true)
    (hp : p ≠ c) {P : Prop} : ∀ j, setPc s i p j = c → P :=
  setPc_cases (Q := fun x _ => x = c → P) (fun e => absurd e hp) fun j hji e =>
    absurd (holding_unique h j i (e ▸ hc) hi) hji

/-- the new `lock` field, `some i` or `none`, is this `if` by reduction -/
theorem lockOk_move {s : St} (h : Inv s) {i : Nat} (hi : s.lock = none ∨ s.lock = some i) (p : Pc) :
    ∀ j, (if holding p = true then some i else none) = some j ↔ holding (setPc s i p j) = true := by
  refine setPc_cases (Q := fun x j => (if holding p = true then some i else none) = some j ↔ holding x = true) ?_
    fun j hji => ?_
  · cases holding p <;> simp
  · have hlj : s.lock ≠ some j := by
      rcases hi with hi | hi <;> simp [hi, Ne.symm hji]
    rw [← h.lockOk j]
    cases holding p <;> simp [hlj, Ne.symm hji]

theorem lockOk_same {s : St} (h : Inv s) {i : Nat} {p q : Pc} (hpi : s.pc i = q) (hp : holding p = holding q) :
    ∀ j, s.lock = some j ↔ holding (setPc s i p j) = true :=
  setPc_cases (Q := fun x j => s.lock = some j ↔ holding x = true) (hp ▸ hpi ▸ h.lockOk i) fun j _ => h.lockOk j

theorem doneSent_frame {s : St} (h : Inv s) {i : Nat} {p q : Pc} (hpi : s.pc i = q) (hq : q ≠ .done) (hp : p ≠ .done) :
    ∀ j, setPc s i p j = .done ↔ s.sentBy j ≠ none :=
  setPc_cases (Q := fun x j => x = .done ↔ s.sentBy j ≠ none)
    (iff_of_false hp fun hne => hq (hpi ▸ (h.doneSent i).mpr hne)) fun j _ => h.doneSent j

/-- the bodies of `pendingResp` / `pendingCb`, with `c` the waiting place -/
theorem pending_frame (s : St) {i : Nat} {q : Pc} (p c : Pc) (hpi : s.pc i = q) (hq : q ≠ c) (hp : p ≠ c) :
    (match s.lock with | some k => if setPc s i p k = c then 1 else 0 | none => 0) =
    (match s.lock with | some k => if s.pc k = c then 1 else 0 | none => 0) := by
  cases s.lock with
  | none => rfl
  | some k =>
    by_cases hk : k = i
    · simp [hk, setPc_same, hp, hpi, hq]
    · simp [setPc_other s i k p hk]

/-- every enabled step preserves the invariant; in each case `{ h with … }` lists the clauses that need an argument, the
    others hold as before (their statements do not mention what the step changes) -/
theorem step_preserves_inv (s s' : St) (a : Act) (h : Inv s) (hs : step s a = some s') : Inv s' := by
  revert hs
  fun_cases step s a <;> intro hs <;> cases hs
  next i hc =>
    -- acquire
    obtain ⟨hpi, hl⟩ := hc
    exact { h with
      lockOk := lockOk_move h (Or.inl hl) .inLock
      respExpired := at_frame h.respExpired i (by decide)
      cbLive := at_frame h.cbLive i (by decide)
      readyLive := at_frame h.readyLive i (by decide)
      doneSent := doneSent_frame h hpi (by decide) (by decide)
      sentCount := by simpa [pendingResp, hl, setPc_same] using h.sentCount
      cbCount := fun hcb => by simpa [pendingCb, hl, setPc_same] using h.cbCount hcb
    }
  next i hpi hv =>
    -- check, token expired
    have hli := h.lock_eq hpi rfl
    exact { h with
      lockOk := lockOk_same h hpi rfl
      respExpired := fun _ _ => hv
      cbLive := at_frame h.cbLive i (by decide)
      readyLive := at_frame h.readyLive i (by decide)
      doneSent := doneSent_frame h hpi (by decide) (by decide)
      sentCount := by simp +arith [h.sentCount, pendingResp, hli, hpi, setPc_same]
      cbCount := fun hcb => by simpa [pendingCb, hli, hpi, setPc_same] using h.cbCount hcb
    }
  next i hpi hv =>
    -- check, token live
    have hli := h.lock_eq hpi rfl
    exact { h with
      lockOk := lockOk_move h (Or.inr hli) .ready
      respExpired := at_frame h.respExpired i (by decide)
      cbLive := at_frame h.cbLive i (by decide)
      readyLive := fun _ _ => hv
      doneSent := doneSent_frame h hpi (by decide) (by decide)
      sentCount := by simpa [pendingResp, hli, hpi] using h.sentCount
      cbCount := fun hcb => by simpa [pendingCb, hli, hpi] using h.cbCount hcb
    }
  next i hpi hcb =>
    -- respond success, callback configured; the first success, since the token was still expired
    have hli := h.lock_eq hpi rfl
    have hok0 : s.refreshOk = 0 := h.ver ▸ h.respExpired i hpi
    exact { h with
      lockOk := lockOk_same h hpi rfl
      ver := congrArg (· + 1) h.ver
      okLe := by simp [hok0]
      respExpired := nobody_at h (hpi ▸ rfl) rfl (by decide)
      cbLive := fun _ _ => ⟨Nat.succ_ne_zero _, hcb⟩
      readyLive := fun _ _ => Nat.succ_ne_zero _
      sentLive := fun j v hv => (h.sentLive j v hv).imp_right Nat.le_succ_of_le
      doneSent := doneSent_frame h hpi (by decide) (by decide)
      sentCount := by simp +arith [h.sentCount, pendingResp, hli, hpi, setPc_same]
      cbCount := fun _ => by simp +arith [← h.cbCount hcb, pendingCb, hli, hpi, setPc_same]
      noCb := fun hf => by cases hcb.symm.trans hf
    }
  next i hpi hcb =>
    -- respond success, no callback
    have hli := h.lock_eq hpi rfl
    have hok0 : s.refreshOk = 0 := h.ver ▸ h.respExpired i hpi
    exact { h with
      lockOk := lockOk_move h (Or.inr hli) .ready
      ver := congrArg (· + 1) h.ver
      okLe := by simp [hok0]
      respExpired := nobody_at h (hpi ▸ rfl) rfl (by decide)
      cbLive := nobody_at h (hpi ▸ rfl) rfl (by decide)
      readyLive := fun _ _ => Nat.succ_ne_zero _
      sentLive := fun j v hv => (h.sentLive j v hv).imp_right Nat.le_succ_of_le
      doneSent := doneSent_frame h hpi (by decide) (by decide)
      sentCount := by simp +arith [h.sentCount, pendingResp, hli, hpi]
      cbCount := fun hcb' => absurd hcb' hcb
    }
  next i hpi _ _ =>
    -- respond, failure
    have hli := h.lock_eq hpi rfl
    exact { h with
      lockOk := lockOk_move h (Or.inr hli) .failed
      respExpired := at_frame h.respExpired i (by decide)
      cbLive := at_frame h.cbLive i (by decide)
      readyLive := at_frame h.readyLive i (by decide)
      doneSent := doneSent_frame h hpi (by decide) (by decide)
      sentCount := by simp +arith [h.sentCount, pendingResp, hli, hpi]
      cbCount := fun hcb => by simpa [pendingCb, hli, hpi] using h.cbCount hcb
    }
  next i hpi =>
    -- cbDone
    have hli := h.lock_eq hpi rfl
    obtain ⟨hlive, hcb⟩ := h.cbLive i hpi
    exact { h with
      lockOk := lockOk_move h (Or.inr hli) .ready
      respExpired := at_frame h.respExpired i (by decide)
      cbLive := at_frame h.cbLive i (by decide)
      readyLive := fun _ _ => hlive
      doneSent := doneSent_frame h hpi (by decide) (by decide)
      sentCount := by simpa [pendingResp, hli, hpi] using h.sentCount
      cbCount := fun _ => by simp +arith [← h.cbCount hcb, pendingCb, hli, hpi]
      noCb := fun hf => by cases hcb.symm.trans hf
    }
  next i hpi =>
    -- send
    refine { h with
      lockOk := lockOk_same h hpi rfl
      respExpired := at_frame h.respExpired i (by decide)
      cbLive := at_frame h.cbLive i (by decide)
      readyLive := at_frame h.readyLive i (by decide)
      sentLive := ?_
      doneSent := ?_
      sentCount := by
        simpa only [pendingResp, pending_frame s .done .awaitResp hpi (by decide) (by decide)] using h.sentCount
      cbCount := fun hcb => by
        simpa only [pendingCb, pending_frame s .done .awaitCb hpi (by decide) (by decide)] using h.cbCount hcb
    }
    · intro j v hv
      by_cases hji : j = i
      · simp only [hji, if_true, Option.some.injEq] at hv
        exact hv ▸ ⟨h.readyLive i hpi, Nat.le_refl _⟩
      · exact h.sentLive j v (by simpa [hji] using hv)
    · exact setPc_cases (Q := fun x j => x = .done ↔ (if j = i then some s.tokenVer else s.sentBy j) ≠ none)
        (by simp) fun j hji => by simpa [hji] using h.doneSent j

theorem run_invariant {P : St → Prop} (acts : List Act) {s : St} (h0 : P s)
    (hstep : ∀ s s' a, a ∈ acts → P s → step s a = some s' → P s') : P (run s acts) :=
  List.foldlRecOn acts _ h0 fun s hs a ha => by
    cases e : step s a with
    | none => exact hs
    | some s' => exact hstep s s' a ha hs e

theorem inv_reachable (hasCb : Bool) (acts : List Act) : Inv (run (init hasCb) acts) :=
  run_invariant acts (inv_init hasCb) fun s s' a _ hs e => step_preserves_inv s s' a hs e

theorem run_hasCb (s : St) (acts : List Act) : (run s acts).hasCb = s.hasCb :=
  run_invariant (P := fun t => t.hasCb = s.hasCb) acts rfl fun t t' a _ ht e => by
    revert e
    fun_cases step t a <;> intro e <;> cases e
    all_goals exact ht

/-- **no protected request ever carries the expired token**, for every N, schedule and endpoint behaviour -/
theorem no_protected_request_with_expired_token (hasCb : Bool) (acts : List Act) (i v : Nat)
    (h : (run (init hasCb) acts).sentBy i = some v) : v ≠ 0 :=
  ((inv_reachable hasCb acts).sentLive i v h).1

/-- **mutual exclusion** of check-expired-then-refresh -/
theorem mutual_exclusion (hasCb : Bool) (acts : List Act) (i j : Nat)
    (hi : holding ((run (init hasCb) acts).pc i) = true) (hj : holding ((run (init hasCb) acts).pc j) = true) : i = j :=
  holding_unique (inv_reachable hasCb acts) i j hi hj

/-- **at most one successful refresh** for the expiry, and the callback fires at most once -/
theorem at_most_one_successful_refresh (hasCb : Bool) (acts : List Act) :
    (run (init hasCb) acts).refreshOk ≤ 1 ∧ (run (init hasCb) acts).callbacks ≤ 1 := by
  have h := inv_reachable hasCb acts
  refine ⟨h.okLe, ?_⟩
  cases hc : (run (init hasCb) acts).hasCb with
  | true => exact Nat.le_trans (Nat.le.intro (h.cbCount hc)) h.okLe
  | false => exact h.noCb hc ▸ Nat.zero_le 1

/-- when nobody is inside the refresh section, the callback has fired exactly once per successful refresh -/
theorem callback_exactly_once_per_refresh (acts : List Act) (hq : (run (init true) acts).lock = none) :
    (run (init true) acts).callbacks = (run (init true) acts).refreshOk := by
  simpa [pendingCb, hq] using (inv_reachable true acts).cbCount (run_hasCb _ acts)

/-- a coroutine whose refresh failed never sends its protected request; one that sent it is done -/
theorem failed_refresh_sends_nothing (hasCb : Bool) (acts : List Act) (i : Nat)
    (hf : (run (init hasCb) acts).pc i = .failed) : (run (init hasCb) acts).sentBy i = none :=
  Decidable.not_not.mp fun hne => by cases hf.symm.trans (((inv_reachable hasCb acts).doneSent i).mpr hne)

/-- the number of refresh requests: one per success, one per failure, one in flight -/
theorem refresh_requests_accounted (hasCb : Bool) (acts : List Act) :
    (run (init hasCb) acts).refreshSent =
      (run (init hasCb) acts).refreshOk + (run (init hasCb) acts).failures + pendingResp (run (init hasCb) acts) :=
  (inv_reachable hasCb acts).sentCount

def allSuccess (acts : List Act) : Prop := ∀ i o, Act.respond i o ∈ acts → o = .success

theorem failures_zero (acts : List Act) (hall : allSuccess acts) (s : St) (h : s.failures = 0) :
    (run s acts).failures = 0 :=
  run_invariant (P := fun s => s.failures = 0) acts h fun s s' a ha hs e => by
    revert e ha
    fun_cases step s a <;> intro ha e <;> cases e <;> try exact hs
    -- respond, failure
    next i _ o hne => exact absurd (hall i o ha) hne

theorem pending_excludes_ok {s : St} (h : Inv s) : pendingResp s + s.refreshOk ≤ 1 := by
  have := h.okLe
  fun_cases pendingResp s
  next k _ hk =>
    have := h.ver ▸ h.respExpired k hk
    omega
  all_goals omega

/-- **exactly one refresh**: with a token endpoint that answers successfully, under every schedule at
    most one refresh request is ever made, and as soon as any coroutine has sent its protected request
    exactly one was made, it succeeded, and that request carried the new token (version 1) -/
theorem exactly_one_refresh_when_endpoint_succeeds (hasCb : Bool) (acts : List Act) (hall : allSuccess acts) :
    (run (init hasCb) acts).refreshSent ≤ 1 ∧
    ∀ i v, (run (init hasCb) acts).sentBy i = some v →
      v = 1 ∧ (run (init hasCb) acts).refreshOk = 1 ∧
      (run (init hasCb) acts).refreshSent = 1 := by
  have h := inv_reachable hasCb acts
  have hf := failures_zero acts hall (init hasCb) rfl
  have hsc := h.sentCount
  have hp := pending_excludes_ok h
  refine ⟨by omega, fun i v hv => ?_⟩
  -- the version sent is the token version at that moment ≤ the final one = refreshOk ≤ 1
  obtain ⟨hne, hle⟩ := h.sentLive i v hv
  rw [h.ver] at hle
  omega

/-- non-vacuity: a concrete schedule of two coroutines in which both requests go out with the new token
    after exactly one refresh, and one in which the endpoint fails for the first caller -/
example : let s := run (init true) [.acquire 0, .acquire 1, .check 0, .respond 0 .success, .cbDone 0, .acquire 1, .send 0, .check 1, .send 1]
    s.sentBy 0 = some 1 ∧ s.sentBy 1 = some 1 ∧ s.refreshSent = 1 ∧ s.callbacks = 1 := by decide
example : let s := run (init false) [.acquire 0, .check 0, .respond 0 .oauthError, .acquire 1, .check 1, .respond 1 .success, .send 1, .send 0]
    s.pc 0 = .failed ∧ s.sentBy 0 = none ∧ s.sentBy 1 = some 1 ∧ s.refreshSent = 2 := by decide

end Props.C17
