import Props.C07Jwt
import Model.ClientAuth
import Generated.Grants
/-
  C07 — a request is treated as coming from a client only with that client's identifier, valid
  credentials and a method both the endpoint permits and the client is registered for; everything
  else is invalid_client (401 + challenge when Basic was the only mechanism and is permitted).
  Secret-based methods and `none`; the JWT assertion method is covered by correspondence only.
-/
namespace Props.C07
open Model Model.ClientEmit Model.ClientAuth

/-- what "valid credentials through method m" means, from the property statement -/
def ValidCredentials (clients : List Client) (r : Req) (c : Client) : String → Prop
  | "client_secret_basic" => extractBasic r.authorization = (some c.id, some c.secret) ∧ c.id ≠ [] ∧ c.secret ≠ []
  | "client_secret_post" => r.formClientId = some c.id ∧ r.formSecret = some c.secret ∧ c.id ≠ [] ∧ c.secret ≠ []
  | "none" => r.dataClientId = some c.id ∧ c.id ≠ [] ∧ truthyB r.dataSecret = false
  | _ => False

theorem find_spec {clients : List Client} {id : Bytes} {c : Client} (h : find clients id = some c) :
    c ∈ clients ∧ c.id = id :=
  ⟨List.mem_of_find?_eq_some h, by simpa using List.find?_some h⟩

theorem truthyB_iff {o : Option Bytes} : truthyB o = true ↔ ∃ b, o = some b ∧ b ≠ [] := by
  cases o <;> simp [truthyB]

theorem tryMethod_client {clients : List Client} {r : Req} {m : String} {c : Client}
    (h : tryMethod clients r m = .client c) : c ∈ clients ∧ ValidCredentials clients r c m := by
  revert h
  fun_cases tryMethod clients r m
  · -- by its equation lemma: left to `exact`, the match on the literal would be evaluated by unfolding
    rw [ValidCredentials]
    fun_cases tryBasic clients r <;> intro h <;> cases h
    next _ secret heq hne hf hs =>
      obtain ⟨hm, rfl⟩ := find_spec hf
      cases (show c.secret = secret by simpa using hs)
      simp only [Bool.or_eq_true, not_or, List.isEmpty_iff] at hne
      exact ⟨hm, heq, hne.1, hne.2⟩
  · rw [ValidCredentials]
    fun_cases tryPost clients r <;> intro h <;> cases h
    next hcond hf hs =>
      obtain ⟨hm, hid⟩ := find_spec hf
      obtain ⟨h1, h2⟩ := Bool.and_eq_true_iff.mp hcond
      obtain ⟨fid, hfi, hne⟩ := truthyB_iff.mp h1
      obtain ⟨fs, hfs, hne'⟩ := truthyB_iff.mp h2
      simp only [hfi, hfs, beq_iff_eq] at hid hs
      subst hid hs
      exact ⟨hm, hfi, hfs, hne, hne'⟩
  · rw [ValidCredentials]
    fun_cases tryNone clients r <;> intro h <;> cases h
    next hcond hf =>
      obtain ⟨hm, hid⟩ := find_spec hf
      obtain ⟨h1, hsec⟩ := Bool.and_eq_true_iff.mp hcond
      obtain ⟨did, hdi, hne⟩ := truthyB_iff.mp h1
      simp only [hdi] at hid
      subst hid
      exact ⟨hm, hdi, hne, by simpa using hsec⟩
  · nofun

theorem tryMethod_raised {clients : List Client} {r : Req} {m : String} {st : Nat}
    (h : tryMethod clients r m = .raised st) : st = 400 ∨ st = 401 := by
  revert h
  fun_cases tryMethod clients r m
  · fun_cases tryBasic clients r <;> intro h <;> cases h
    exact .inr rfl
  · fun_cases tryPost clients r <;> intro h <;> cases h
    exact .inl rfl
  · fun_cases tryNone clients r <;> intro h <;> cases h
    exact .inl rfl
  · nofun

theorem authLoop_cases (clients : List Client) (r : Req) (endpoint : String) (all ms : List String) :
    (∃ m ∈ ms, ∃ c, tryMethod clients r m = .client c ∧ methodPermitted c m endpoint = true ∧
      authLoop clients r endpoint all ms = .authenticated c.id m) ∨
    (∃ m ∈ ms, ∃ st, tryMethod clients r m = .raised st ∧
      authLoop clients r endpoint all ms = .invalidClient st (st == 401)) ∨
    authLoop clients r endpoint all ms =
      (if all.contains "client_secret_basic" then .invalidClient 401 true else .invalidClient 400 false) := by
  have later : ∀ {m0 ms} {P : String → Prop}, (∃ m ∈ ms, P m) → ∃ m ∈ m0 :: ms, P m :=
    fun ⟨m, hm, h⟩ => ⟨m, List.mem_cons_of_mem _ hm, h⟩
  fun_induction authLoop clients r endpoint all ms
  next h => exact .inr (.inr (if_pos h).symm)
  next h => exact .inr (.inr (if_neg h).symm)
  next m _ st ht => exact .inr (.inl ⟨m, List.mem_cons_self, st, ht, rfl⟩)
  next m _ c ht hp => exact .inl ⟨m, List.mem_cons_self, c, ht, hp, rfl⟩
  next ih => exact ih.imp later (.imp_left later)
  next ih => exact ih.imp later (.imp_left later)

/-- **Core statement.** Authentication succeeds only for an existing client, with valid credentials
    of that very client, through a method on the endpoint's list that the client is registered for. -/
theorem authenticated_implies_valid_credentials_and_permitted_method (clients : List Client) (r : Req)
    (methods : List String) (endpoint : String) (id : Bytes) (m : String)
    (h : authenticate clients r methods endpoint = .authenticated id m) :
    m ∈ methods ∧ ∃ c ∈ clients, c.id = id ∧ ValidCredentials clients r c m ∧ methodPermitted c m endpoint = true := by
  rcases authLoop_cases clients r endpoint methods methods with ⟨m', hm, c, ht, hp, heq⟩ | ⟨_, _, _, _, heq⟩ | heq
  · cases heq.symm.trans h
    obtain ⟨hc, hv⟩ := tryMethod_client ht
    exact ⟨hm, c, hc, rfl, hv, hp⟩
  · cases heq.symm.trans h
  · split at heq <;> cases heq.symm.trans h

/-- the permitted-method lists the built-in grants ship with (regenerated from the grant classes after the whole
    library is imported): the password, client-credentials and refresh grants permit HTTP Basic only, the
    authorization-code grant Basic and POST, the front-channel grants `none`, the device grant all three -/
theorem shipped_method_lists :
    Generated.Grants.passwordAuthMethods = ["client_secret_basic"] ∧
    Generated.Grants.clientCredentialsAuthMethods = ["client_secret_basic"] ∧
    Generated.Grants.refreshAuthMethods = ["client_secret_basic"] ∧
    Generated.Grants.codeAuthMethods = ["client_secret_basic", "client_secret_post"] ∧
    Generated.Grants.implicitAuthMethods = ["none"] ∧
    Generated.Grants.oidcImplicitAuthMethods = ["none"] ∧
    Generated.Grants.hybridAuthMethods = ["none"] ∧
    Generated.Grants.deviceAuthMethods = ["client_secret_basic", "client_secret_post", "none"] :=
  ⟨rfl, rfl, rfl, rfl, rfl, rfl, rfl, rfl⟩

/-- at a built-in grant that keeps its shipped list, a client is authenticated through HTTP Basic only
    (password, client credentials, refresh), whatever it presents and whatever it is registered for -/
theorem shipped_basic_only_grants (clients : List Client) (r : Req) (id : Bytes) (m : String) (methods : List String)
    (hg : methods = Generated.Grants.passwordAuthMethods ∨ methods = Generated.Grants.clientCredentialsAuthMethods ∨
          methods = Generated.Grants.refreshAuthMethods)
    (h : authenticate clients r methods "token" = .authenticated id m) : m = "client_secret_basic" := by
  obtain ⟨hm, _⟩ := authenticated_implies_valid_credentials_and_permitted_method clients r methods "token" id m h
  have hl : methods = ["client_secret_basic"] := by
    rcases hg with rfl | rfl | rfl
    · exact shipped_method_lists.1
    · exact shipped_method_lists.2.1
    · exact shipped_method_lists.2.2.1
  exact List.mem_singleton.mp (hl ▸ hm)

/-- the shipped authorization-code grant never authenticates a client through `none` -/
theorem shipped_code_grant_not_none (clients : List Client) (r : Req) (id : Bytes) (m : String)
    (h : authenticate clients r Generated.Grants.codeAuthMethods "token" = .authenticated id m) : m ≠ "none" := by
  obtain ⟨hm, _⟩ := authenticated_implies_valid_credentials_and_permitted_method clients r _ "token" id m h
  rw [shipped_method_lists.2.2.2.1] at hm
  rintro rfl
  simp at hm

/-- a public client that also supplies a secret is never authenticated through `none` -/
theorem public_client_with_secret_rejected (clients : List Client) (r : Req) (hs : truthyB r.dataSecret = true) :
    tryNone clients r = .nothing := by
  simp [tryNone, hs]

/-- a wrong secret never authenticates through Basic or POST -/
theorem wrong_secret_rejected (clients : List Client) (r : Req) (methods : List String) (endpoint : String)
    (id : Bytes) (m : String) (h : authenticate clients r methods endpoint = .authenticated id m)
    (hm : m = "client_secret_post") : ∃ c ∈ clients, c.id = id ∧ r.formSecret = some c.secret := by
  obtain ⟨_, c, hc, hid, hv, _⟩ :=
    authenticated_implies_valid_credentials_and_permitted_method clients r methods endpoint id m h
  rw [hm, ValidCredentials] at hv
  exact ⟨c, hc, hid, hv.2.1⟩

/-- at the token endpoint a client is never authenticated through a method it is not registered for -/
theorem unregistered_method_rejected (clients : List Client) (r : Req) (methods : List String) (id : Bytes) (m : String)
    (h : authenticate clients r methods "token" = .authenticated id m) :
    ∃ c ∈ clients, c.id = id ∧ c.method = m := by
  obtain ⟨_, c, hc, hid, _, hp⟩ :=
    authenticated_implies_valid_credentials_and_permitted_method clients r methods "token" id m h
  exact ⟨c, hc, hid, by simpa [methodPermitted] using hp⟩

/-- when nothing matches and Basic is permitted, the answer is 401 with a WWW-Authenticate challenge;
    when Basic is not permitted it is a plain 400 -/
theorem exhausted_status (clients : List Client) (r : Req) (methods : List String) (endpoint : String)
    (hnone : ∀ m ∈ methods, tryMethod clients r m = .nothing) :
    authenticate clients r methods endpoint =
      (if methods.contains "client_secret_basic" then .invalidClient 401 true else .invalidClient 400 false) := by
  rcases authLoop_cases clients r endpoint methods methods with ⟨m, hm, c, ht, -⟩ | ⟨m, hm, st, ht, -⟩ | heq
  · cases (hnone m hm).symm.trans ht
  · cases (hnone m hm).symm.trans ht
  · exact heq

/-- every outcome that is not an authentication is `invalid_client` with status 400 or 401, and the
    challenge header accompanies exactly the 401 -/
theorem otherwise_invalid_client (clients : List Client) (r : Req) (methods : List String) (endpoint : String) :
    (∃ id m, authenticate clients r methods endpoint = .authenticated id m) ∨
    (∃ st, authenticate clients r methods endpoint = .invalidClient st (st == 401) ∧ (st = 400 ∨ st = 401)) := by
  rw [authenticate]
  rcases authLoop_cases clients r endpoint methods methods with ⟨m, -, c, -, -, heq⟩ | ⟨m, -, st, ht, heq⟩ | heq
  · exact .inl ⟨_, _, heq⟩
  · exact .inr ⟨st, heq, tryMethod_raised ht⟩
  · rw [heq]
    split
    · exact .inr ⟨401, rfl, .inr rfl⟩
    · exact .inr ⟨400, rfl, .inl rfl⟩

example : authenticate [⟨s "app", s "s3cret", "client_secret_basic"⟩]
    { authorization := some (encodeSecretBasic (s "app") (s "s3cret")), formClientId := none, formSecret := none,
      dataClientId := none, dataSecret := none } ["client_secret_basic", "client_secret_post"] "token"
    = .authenticated (s "app") "client_secret_basic" := by decide +kernel

end Props.C07
