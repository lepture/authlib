import Props.C08Core
import Model.ScopeHistory
import Lemmas.List
/-
  C08 over histories: "a refresh keeps or narrows the original token's scope" for EVERY chain of
  refreshes of every length, interleaved with other tokens' requests and with changes of the server's
  and the client's configuration; a refused request changes nothing.
-/
namespace Props.C08Hist
open Model.Text Model.Scope Model.ScopeHistory

/-- every word of a token's scope is a word of the token it was refreshed from, and of the first token of its chain -/
def Inv (ts : List Tok) : Prop :=
  ∀ t ∈ ts, ∀ w, w ∈ words t.scope → w ∈ words t.parent ∧ w ∈ words t.root

theorem revokeAt_eq_modify (ts : List Tok) (n : Nat) :
    revokeAt ts n = ts.modify n fun t => { t with live := false } := by
  fun_induction revokeAt ts n <;> simp [*]

/-- revoking changes `live` only -/
theorem inv_revokeAt {ts : List Tok} (h : Inv ts) (n : Nat) : Inv (revokeAt ts n) := by
  intro t ht
  rw [revokeAt_eq_modify] at ht
  obtain ⟨j, hj⟩ := List.getElem?_of_mem ht
  rw [List.getElem?_modify] at hj
  obtain ⟨a, ha, rfl⟩ := Option.map_eq_some_iff.mp hj
  have := h a (List.mem_of_getElem? ha)
  split <;> exact this

/-- one request keeps the invariant, whatever the configuration in force -/
theorem step_preserves_inv (ts : List Tok) (op : Op) (h : Inv ts) : Inv (step ts op).1 := by
  fun_cases step ts op <;> try exact h
  · exact List.forall_mem_append.mpr ⟨h, List.forall_mem_singleton.mpr fun w hw => ⟨hw, hw⟩⟩
  next hi =>
    refine List.forall_mem_append.mpr ⟨inv_revokeAt h _, List.forall_mem_singleton.mpr fun w hw => ?_⟩
    have hp := ((Props.C08.issued_subset _ _ _ _ _ _ _ hi w (.inl hw)).2.2 rfl).1
    exact ⟨hp, (h _ (List.mem_of_getElem? ‹_›) w hp).2⟩

theorem run_fst (ops : List Op) (ts : List Tok) : (run ts ops).1 = ops.foldl (fun ts op => (step ts op).1) ts :=
  List.fst_run_eq_foldl (fun _ => rfl) (fun _ _ _ => rfl) ops ts

theorem run_preserves_inv {ts : List Tok} (h : Inv ts) (ops : List Op) : Inv (run ts ops).1 :=
  run_fst ops ts ▸ List.foldlRecOn ops _ h fun ts hs op _ => step_preserves_inv ts op hs

/-- **History statement.** From an empty store, after ANY sequence of token and refresh requests — under
    configurations that may change from request to request — every token's scope is within the scope of
    the token it was refreshed from and within the scope of the first token of its chain. -/
theorem history_never_widens (ops : List Op) :
    ∀ t ∈ (run [] ops).1, ∀ w, w ∈ words t.scope → w ∈ words t.parent ∧ w ∈ words t.root :=
  run_preserves_inv (fun _ ht => absurd ht List.not_mem_nil) ops

/-- a refused request (invalid_scope, invalid_grant) leaves the store exactly as it was -/
theorem refused_changes_nothing (ts : List Tok) (op : Op)
    (h : (step ts op).2 = .invalidScope ∨ (step ts op).2 = .invalidGrant) : (step ts op).1 = ts := by
  revert h
  -- a refusing branch returns the store as it is; an issuing branch does not answer with a refusal
  fun_cases step ts op <;> intro h <;> try rfl
  all_goals rcases h with h | h <;> cases h

/-- a refresh of a token that was already refreshed (or never existed) is invalid_grant -/
theorem refresh_of_dead_token_refused (ts : List Tok) (cfg : Cfg) (idx : Nat) (requested : Option Str)
    (h : ∀ t, ts[idx]? = some t → t.live = false) : (step ts (.refresh cfg idx requested)).2 = .invalidGrant := by
  cases hget : ts[idx]? with
  | none => simp [step, hget]
  | some t => simp [step, hget, h t hget]

/-- a successful refresh revokes the refreshed token: the same refresh token cannot be used again -/
theorem refresh_is_single_use (ts : List Tok) (cfg : Cfg) (idx : Nat) (requested : Option Str) (i : Issued)
    (h : (step ts (.refresh cfg idx requested)).2 = .issued i) :
    (step (step ts (.refresh cfg idx requested)).1 (.refresh cfg idx requested)).2 = .invalidGrant := by
  apply refresh_of_dead_token_refused
  generalize hop : Op.refresh cfg idx requested = op at h ⊢
  revert h
  fun_cases step ts op <;> cases hop <;> intro h <;> cases h
  next hget _ =>
    intro t ht
    have hlt : idx < (revokeAt ts idx).length := by
      rw [revokeAt_eq_modify, List.length_modify]
      exact (List.getElem?_eq_some_iff.mp hget).1
    rw [List.getElem?_append_left hlt, revokeAt_eq_modify, List.getElem?_modify_eq] at ht
    obtain ⟨_, _, rfl⟩ := Option.map_eq_some_iff.mp ht
    rfl

/-- what a direct grant issues obeys the configuration in force at THAT request (earlier requests and
    earlier configurations cannot matter: `step` reads nothing but the store and the request) -/
theorem issue_within_current_config (ts : List Tok) (cfg : Cfg) (requested : Option Str) (i : Issued) (sup : List Str)
    (h : (step ts (.issue cfg requested)).2 = .issued i) (hs : cfg.supported = some sup) (hne : sup ≠ []) :
    ∀ w, (w ∈ words i.response ∨ w ∈ words i.embedded) → w ∈ sup ∧ w ∈ splitWs cfg.allowed ∧ w ∈ words requested := by
  generalize hop : Op.issue cfg requested = op at h
  revert h
  fun_cases step ts op <;> cases hop <;> intro h <;> cases h
  next hi =>
    intro w hw
    have := Props.C08.issued_subset _ _ _ _ _ _ _ hi w hw
    exact ⟨(this.2.1 (by decide)).2 sup hs hne, this.1, (this.2.1 (by decide)).1⟩

/-- non-vacuity: a chain root → narrower refresh → refused widening → refresh of the dead root -/
example :
    let cfg : Cfg := { gen := .bearer, supported := none, allowed := "a b c".toList }
    (run [] [.issue cfg (some "a b".toList), .refresh cfg 0 (some "a".toList), .refresh cfg 1 (some "a b".toList),
             .refresh cfg 0 none]).2 =
      [.issued { response := some "a b".toList, embedded := none }, .issued { response := some "a".toList, embedded := none },
       .invalidScope, .invalidGrant] := by decide +kernel

end Props.C08Hist
