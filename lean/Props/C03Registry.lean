import Model.Jwe
import Generated.Jwe
/-
  C03 — the JWE registries as the code has them NOW (regenerated on every run) against RFC 7518,
  and the model's parameters against the code's.
-/
namespace Props.C03Registry
open Model Model.Jwe

/-- RFC 7518 §5.1 / §5.2.3–5 / §5.3: the six content-encryption algorithms with their CEK and IV sizes
    (A128CBC-HS256: 256-bit CEK, 128-bit IV, 16-octet MAC key = tag length, SHA-256; …; AxxxGCM: xxx-bit CEK,
    96-bit IV) -/
theorem enc_registry_eq_rfc7518 :
    Generated.Jwe.encRegistry =
      [("A128CBC-HS256", "CBCHS2EncAlgorithm", 256, 128, 16, "sha256"), ("A128GCM", "GCMEncAlgorithm", 128, 96, 0, ""),
       ("A192CBC-HS384", "CBCHS2EncAlgorithm", 384, 128, 24, "sha384"), ("A192GCM", "GCMEncAlgorithm", 192, 96, 0, ""),
       ("A256CBC-HS512", "CBCHS2EncAlgorithm", 512, 128, 32, "sha512"), ("A256GCM", "GCMEncAlgorithm", 256, 96, 0, "")] :=
  rfl

/-- RFC 7518 §4.1: the key-management algorithms of the specification with the key size each demands -/
theorem alg_registry_eq_rfc7518 :
    Generated.Jwe.algRegistry =
      [("A128GCMKW", "AESGCMAlgorithm", 128), ("A128KW", "AESAlgorithm", 128), ("A192GCMKW", "AESGCMAlgorithm", 192),
       ("A192KW", "AESAlgorithm", 192), ("A256GCMKW", "AESGCMAlgorithm", 256), ("A256KW", "AESAlgorithm", 256),
       ("ECDH-ES", "ECDHESAlgorithm", 0), ("ECDH-ES+A128KW", "ECDHESAlgorithm", 128), ("ECDH-ES+A192KW", "ECDHESAlgorithm", 192),
       ("ECDH-ES+A256KW", "ECDHESAlgorithm", 256), ("RSA-OAEP", "RSAAlgorithm", 2048), ("RSA-OAEP-256", "RSAAlgorithm", 2048),
       ("RSA1_5", "RSAAlgorithm", 2048), ("dir", "DirectAlgorithm", 0)] :=
  rfl

theorem zip_registry_eq_rfc7516 : Generated.Jwe.zipRegistry = ["DEF"] := rfl

/-- the model's AES-CBC-HMAC parameters are the code's: for every registered CBC-HS algorithm the model knows the
    name and uses the same MAC-key / tag length; the CEK is twice that, the IV 128 bits -/
theorem cbc_model_params_are_the_codes :
    ∀ e ∈ Generated.Jwe.encRegistry, e.2.1 = "CBCHS2EncAlgorithm" →
      ∃ c, cbcHs e.1 = some c ∧ c.keyLen = e.2.2.2.2.1 ∧ e.2.2.1 = 2 * 8 * c.keyLen ∧ e.2.2.2.1 = 128 := by
  decide +kernel

/-- the tag is the leftmost half of the hash output (RFC 7518 §5.2.2.1 step 4): MAC-key octets = hash bits / 16 -/
theorem cbc_tag_is_half_the_hash :
    ∀ e ∈ Generated.Jwe.encRegistry, e.2.1 = "CBCHS2EncAlgorithm" →
      (e.2.2.2.2.2 = "sha256" ∧ e.2.2.2.2.1 = 16) ∨ (e.2.2.2.2.2 = "sha384" ∧ e.2.2.2.2.1 = 24) ∨
      (e.2.2.2.2.2 = "sha512" ∧ e.2.2.2.2.1 = 32) := by
  decide +kernel

/-- every algorithm that is not CBC-HS is AES-GCM with CEK size = the size in its name and a 96-bit IV -/
theorem gcm_params :
    ∀ e ∈ Generated.Jwe.encRegistry, e.2.1 ≠ "CBCHS2EncAlgorithm" →
      e.2.1 = "GCMEncAlgorithm" ∧ e.2.2.2.1 = 96 ∧ (e.2.2.1 = 128 ∨ e.2.2.1 = 192 ∨ e.2.2.1 = 256) := by
  decide +kernel

end Props.C03Registry
