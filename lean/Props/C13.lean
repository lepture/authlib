import Model.IdToken
import Lemmas.Claims
/-
  C13 — ID Token validation by the relying party: every mismatch is rejected (unconditionally, or
  as a reduction to a half-hash collision), the half hash is the RFC's left half of the matched
  SHA-2, and a provider-shaped token is accepted (non-vacuity example; the general acceptance is
  covered by the correspondence).
-/
namespace Props.C13
open Model Model.IdToken
open Model.Claims hiding validate

theorem firstMissing_none {c : Claims} {ks : List String} (h : firstMissing c ks = none) :
    ∀ k ∈ ks, (c.lookup k).isSome = true := by
  revert h
  fun_induction firstMissing c ks <;> intro h <;> try cases h
  · exact fun _ hk => nomatch hk
  next h0 ih => exact List.forall_mem_cons.mpr ⟨h0, ih h⟩

theorem validate_none_components {hh : String → Bytes → Option Bytes} {cls : Cls} {c : Claims} {o : Options}
    {p : Params} {alg : String} {now lw : Int} (h : validate hh cls c o p alg now lw = none) :
    firstMissing c (essentialClaims cls) = none ∧ claimValue c o "iss" = none ∧ checkExp c now lw = none ∧
    checkIat c now lw = none ∧ checkNonce c p = none ∧ checkAzp c p = none ∧
    checkAtHash hh cls c p alg = none ∧ (cls = .hybrid → checkCHash hh c p alg = none) := by
  simp only [validate, orElse'_eq_none] at h
  -- the fifteen checks in the order of `validate`; named are the eight the theorems below speak of
  obtain ⟨hess, -, hiss, -, -, hexp, -, hiat, -, hnonce, -, -, hazp, hat, hch⟩ := h
  exact ⟨hess, hiss, hexp, hiat, hnonce, hazp, hat, fun hc => by simpa [hc] using hch⟩

theorem truthyStr_some {o : Option String} {s : String} (h : o = some s) (hne : s ≠ "") : truthyStr o = some s := by
  simp [truthyStr, h, hne]

/-- a nonce different from the one the relying party sent is rejected -/
theorem nonce_mismatch_rejected (hh) (cls : Cls) (c : Claims) (o : Options) (p : Params) (alg : String)
    (now lw : Int) (n : String) (v : Val) (hn : p.nonce = some n) (hne : n ≠ "")
    (hc : c.lookup "nonce" = some v) (hdiff : (Val.atom (.str n)).pyEq v = false) :
    validate hh cls c o p alg now lw ≠ none := by
  intro h
  obtain ⟨-, -, -, -, hnonce, -⟩ := validate_none_components h
  simp [checkNonce, truthyStr_some hn hne, hc, hdiff] at hnonce

/-- a token without nonce is rejected when the relying party sent one (and always for the
    implicit / hybrid classes, where `nonce` is essential) -/
theorem nonce_missing_rejected (hh) (cls : Cls) (c : Claims) (o : Options) (p : Params) (alg : String)
    (now lw : Int) (hc : c.lookup "nonce" = none)
    (hreq : cls ≠ .code ∨ ∃ n, p.nonce = some n ∧ n ≠ "") :
    validate hh cls c o p alg now lw ≠ none := by
  intro h
  obtain ⟨hess, -, -, -, hnonce, -⟩ := validate_none_components h
  rcases hreq with hcls | ⟨n, hn, hne⟩
  · have hmem : "nonce" ∈ essentialClaims cls := by
      cases cls with
      | code => exact absurd rfl hcls
      | _ => simp [essentialClaims]
    simpa [hc] using firstMissing_none hess "nonce" hmem
  · simp [checkNonce, truthyStr_some hn hne, hc] at hnonce

/-- a token issued to another client (single audience ≠ this client, no `azp`) is rejected -/
theorem client_mismatch_rejected (hh) (cls : Cls) (c : Claims) (o : Options) (p : Params) (alg : String)
    (now lw : Int) (cid a : String) (hcid : p.clientId = some cid) (hne : cid ≠ "") (ha : a ≠ "")
    (haud : c.lookup "aud" = some (.list [.str a])) (hdiff : a ≠ cid) (hazp : c.lookup "azp" = none) :
    validate hh cls c o p alg now lw ≠ none := by
  intro h
  obtain ⟨-, -, -, -, -, hazp', -⟩ := validate_none_components h
  -- a one-element `aud` list is compared as its element; it differs from the client id, so `azp` is required,
  -- and it is absent
  simp [checkAzp, truthyStr_some hcid hne, getD, haud, hazp, Val.truthy, Val.pyEq, Atom.pyEq_str, hdiff] at hazp'

/-- a token from another issuer is rejected (the relying party pins `iss` through `values`) -/
theorem issuer_mismatch_rejected (hh) (cls : Cls) (c : Claims) (p : Params) (alg : String) (now lw : Int)
    (iss got : String) (hiss : c.lookup "iss" = some (.atom (.str got))) (hdiff : got ≠ iss) :
    validate hh cls c [("iss", { values := some [.atom (.str iss)] })] p alg now lw ≠ none := by
  intro h
  obtain ⟨-, hi, -⟩ := validate_none_components h
  -- with only `values` given, `claimValue` asks that the claim be among them (`pyIn`)
  simp [claimValue, List.lookup, getD, hiss, optTruthy, optListTruthy, orElse', pyIn, Val.pyEq, Atom.pyEq_str,
    hdiff] at hi

/-- once `exp` is more than `leeway` in the past the token is rejected (`now`, `lw` in quarters of a second as in
    `Model.Claims`, `e` in seconds) -/
theorem expired_rejected (hh) (cls : Cls) (c : Claims) (o : Options) (p : Params) (alg : String)
    (now lw e : Int) (hexp : c.lookup "exp" = some (.atom (.int e))) (hlt : 4 * e < now - lw) :
    validate hh cls c o p alg now lw ≠ none := by
  intro h
  obtain ⟨-, -, he, -⟩ := validate_none_components h
  simp [checkExp, hexp, Val.numericDate, hlt] at he

/-- **Access-token binding as a reduction.** If validation passes with access token `t'` while
    `at_hash` is the half hash of `t`, then `t'` and `t` collide under the half hash. -/
theorem at_hash_mismatch_is_collision (hh : String → Bytes → Option Bytes) (cls : Cls) (c : Claims) (o : Options)
    (p : Params) (alg : String) (now lw : Int) (t' : String) (claim : String) (h0 : Bytes)
    (hp : p.accessToken = some t') (hne : t' ≠ "") (hc : c.lookup "at_hash" = some (.atom (.str claim)))
    (hcl : claim ≠ "") (hh' : hh alg (strBytes t') = some h0)
    (h : validate hh cls c o p alg now lw = none) : h0 = strBytes claim := by
  obtain ⟨-, -, -, -, -, -, hat, -⟩ := validate_none_components h
  simpa [checkAtHash, truthyStr_some hp hne, hc, getD, Val.truthy, hcl, strOf, verifyHash, hh'] using hat

/-- **Code binding as a reduction** (hybrid flows) -/
theorem c_hash_mismatch_is_collision (hh : String → Bytes → Option Bytes) (c : Claims) (o : Options)
    (p : Params) (alg : String) (now lw : Int) (code' : String) (claim : String) (h0 : Bytes)
    (hp : p.code = some code') (hne : code' ≠ "") (hc : c.lookup "c_hash" = some (.atom (.str claim)))
    (hh' : hh alg (strBytes code') = some h0)
    (h : validate hh .hybrid c o p alg now lw = none) : h0 = strBytes claim := by
  obtain ⟨-, -, -, -, -, -, -, hch⟩ := validate_none_components h
  have hch := hch rfl
  simp only [checkCHash, truthyStr_some hp hne, hc, getD, Option.getD_some, strOf, verifyHash, hh'] at hch
  split at hch
  · cases hch
  · simpa using hch

/-- hybrid flows: a token without `c_hash` is rejected when the relying party holds a code -/
theorem c_hash_missing_rejected (hh) (c : Claims) (o : Options) (p : Params) (alg : String) (now lw : Int)
    (code' : String) (hp : p.code = some code') (hne : code' ≠ "") (hc : c.lookup "c_hash" = none) :
    validate hh .hybrid c o p alg now lw ≠ none := by
  intro h
  obtain ⟨-, -, -, -, -, -, -, hch⟩ := validate_none_components h
  simpa [checkCHash, truthyStr_some hp hne, hc, getD, Val.truthy] using hch rfl

/-- **at_hash / c_hash are the base64url left half of the SHA-2 matched to the algorithm** for the
    twelve RFC 7518 algorithms in the property's quantifier -/
theorem half_hash_eq_spec (s : Bytes) :
    (∀ a ∈ ["HS256", "RS256", "PS256", "ES256"], createHalfHash a s =
        some (Base64.urlEncode ((Sha.sha256 s).take ((Sha.sha256 s).length / 2)))) ∧
    (∀ a ∈ ["HS384", "RS384", "PS384", "ES384"], createHalfHash a s =
        some (Base64.urlEncode ((Sha.sha384 s).take ((Sha.sha384 s).length / 2)))) ∧
    (∀ a ∈ ["HS512", "RS512", "PS512", "ES512"], createHalfHash a s =
        some (Base64.urlEncode ((Sha.sha512 s).take ((Sha.sha512 s).length / 2)))) := by
  have h256 : ∀ a ∈ ["HS256", "RS256", "PS256", "ES256"], (a.drop 2).toString = "256" := by decide +kernel
  have h384 : ∀ a ∈ ["HS384", "RS384", "PS384", "ES384"], (a.drop 2).toString = "384" := by decide +kernel
  have h512 : ∀ a ∈ ["HS512", "RS512", "PS512", "ES512"], (a.drop 2).toString = "512" := by decide +kernel
  refine ⟨fun a ha => ?_, fun a ha => ?_, fun a ha => ?_⟩
  · simp only [createHalfHash, hashFor, h256 a ha, Option.map_some, halfHashWith]
  · simp only [createHalfHash, hashFor, h384 a ha, Option.map_some, halfHashWith]
  · simp only [createHalfHash, hashFor, h512 a ha, Option.map_some, halfHashWith]

/-- non-vacuity: a provider-shaped hybrid token is accepted, here with an abstract, injective "hash" -/
example :
    let hh : String → Bytes → Option Bytes := fun _ s => some (s ++ [65])
    validate hh .hybrid
      (generate hh "RS256" "https://op" "client" "u1" 100 3600 (some "n-0S6") (some "c0de") (some "t0k"))
      [("iss", { values := some [.atom (.str "https://op")] })]
      { nonce := some "n-0S6", clientId := some "client", accessToken := some "t0k", code := some "c0de" }
      "RS256" 440 0 = none := by decide +kernel

end Props.C13
