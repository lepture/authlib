import Model.ClientState
import Lemmas.List
/-
  C14 — the callback is bound to the session that started the flow (session storage), for every
  history of begin / callback / clock operations over any number of sessions and providers.

  Cache storage: the binding does NOT hold (`cache_mode_foreign_session_completes`, a concrete
  two-step history); the theorems below carry the hypothesis `cacheMode = false` and are therefore
  labelled `…_partial` where the property statement itself says "with or without a shared cache".
-/
namespace Props.C14
open Model.ClientState

theorem setSession_same (w : World) (i : Nat) (l : List Entry) : (setSession w i l).sessions i = l := if_pos rfl

theorem setSession_other (w : World) {i j : Nat} (l : List Entry) (h : i ≠ j) :
    (setSession w i l).sessions j = w.sessions j :=
  if_neg (Ne.symm h)

theorem callback_proceeds_implies_own_entry_partial {w : World} (hc : w.cacheMode = false) {i : Nat} {n : String}
    {st : Option String} {d : Data} (h : (step w (.callback i n st)).2 = .proceeds d) :
    ∃ e ∈ w.sessions i, e.key = keyOf n st ∧ e.data = d := by
  simp only [step, hc, Bool.false_eq_true, if_false] at h
  cases hf : (w.sessions i).find? (fun e => e.key == keyOf n st) with
  | none => simp [hf] at h
  | some e =>
    simp only [hf] at h
    injection h with h
    exact ⟨e, List.mem_of_find?_eq_some hf, by simpa using List.find?_some hf, h⟩

/-- every other callback — unknown, consumed, foreign-session, other provider's, missing or garbage
    state — is a state mismatch; `Out.mismatch` carries no request: nothing is sent to the provider -/
theorem callback_without_entry_is_mismatch_partial (w : World) (hc : w.cacheMode = false) (i : Nat) (n : String)
    (st : Option String) (h : ∀ e ∈ w.sessions i, e.key ≠ keyOf n st) :
    (step w (.callback i n st)).2 = .mismatch := by
  simp only [step, hc, Bool.false_eq_true, if_false]
  cases hf : (w.sessions i).find? (fun e => e.key == keyOf n st) with
  | none => rfl
  | some e =>
    exact absurd (by simpa using List.find?_some hf) (h e (List.mem_of_find?_eq_some hf))

/-- a callback purges the session of the entry it names; the OAuth 1 apps raise on an unknown request token before
    anything is cleared (second disjunct) -/
theorem callback_sessions (w : World) (hc : w.cacheMode = false) (i : Nat) (n : String) (st : Option String) :
    (step w (.callback i n st)).1.sessions
        = (setSession w i (purge w.now ((w.sessions i).filter fun e => e.key != keyOf n st))).sessions
    ∨ ((w.sessions i).find? (fun e => e.key == keyOf n st) = none ∧
        (step w (.callback i n st)).1.sessions = w.sessions) := by
  simp only [step, hc, Bool.false_eq_true, if_false]
  cases hf : (w.sessions i).find? (fun e => e.key == keyOf n st) with
  | some e => exact .inl rfl
  | none =>
    by_cases ho : w.oauth1 = true
    · exact .inr ⟨rfl, by simp [ho]⟩
    · exact .inl (by simp [ho])

theorem callback_consumes_partial (w : World) (hc : w.cacheMode = false) (i : Nat) (n : String) (st : Option String) :
    ∀ e ∈ (step w (.callback i n st)).1.sessions i, e.key ≠ keyOf n st := by
  intro e he
  rcases callback_sessions w hc i n st with h | ⟨hf, h⟩
  · rw [h, setSession_same] at he
    simpa using (List.mem_filter.mp (List.mem_filter.mp he).1).2
  · rw [h] at he
    simpa using List.find?_eq_none.mp hf e he

/-- operations in one session never touch another session's entries -/
theorem other_sessions_untouched_partial (w : World) (hc : w.cacheMode = false) (op : Op) (j : Nat)
    (hj : match op with | .begin i .. => i ≠ j | .callback i .. => i ≠ j | .advance _ => True) :
    (step w op).1.sessions j = w.sessions j := by
  cases op with
  | begin i n s d =>
    simp only [step, hc, Bool.false_eq_true, if_false]
    exact setSession_other w _ hj
  | callback i n st =>
    rcases callback_sessions w hc i n st with h | ⟨_, h⟩
    · rw [h]
      exact setSession_other w _ hj
    · rw [h]
  | advance dt => rfl

theorem cacheMode_const (w : World) (op : Op) : (step w op).1.cacheMode = w.cacheMode := by
  fun_cases step w op
  -- an unknown callback leaves `if w.oauth1 then w else w'`
  all_goals first | rfl | (split <;> rfl)

theorem mem_setSession {w : World} {i j : Nat} {l : List Entry} {e : Entry}
    (he : e ∈ (setSession w i l).sessions j) :
    (j = i ∧ e ∈ l) ∨ e ∈ w.sessions j := by
  by_cases hji : j = i
  · exact .inl ⟨hji, by rwa [hji, setSession_same] at he⟩
  · exact .inr (by rwa [setSession_other w l (Ne.symm hji)] at he)

theorem step_entries {w : World} (hc : w.cacheMode = false) {op : Op} {j : Nat} {e : Entry}
    (he : e ∈ (step w op).1.sessions j) :
    e ∈ w.sessions j ∨ ∃ n s, op = .begin j n s e.data ∧ e.key = keyOf n (some s) := by
  cases op with
  | begin i n s d =>
    simp only [step, hc, Bool.false_eq_true, if_false] at he
    rcases mem_setSession he with ⟨rfl, he⟩ | he
    · rcases List.mem_append.mp he with he | he
      · left
        split at he <;> exact (List.mem_filter.mp he).1
      · right
        rw [List.mem_singleton.mp he]
        exact ⟨n, s, rfl, rfl⟩
    · exact .inl he
  | callback i n st =>
    left
    rcases callback_sessions w hc i n st with h | ⟨_, h⟩
    · rw [h] at he
      rcases mem_setSession he with ⟨rfl, he⟩ | he
      · exact (List.mem_filter.mp (List.mem_filter.mp he).1).1
      · exact he
    · rwa [h] at he
  | advance dt => exact .inl he

theorem run_append (w : World) (ops : List Op) (op : Op) : run w (ops ++ [op]) = (step (run w ops) op).1 := by
  simp [run]

theorem run_cacheMode (ops : List Op) (w : World) : (run w ops).cacheMode = w.cacheMode :=
  List.foldlRecOn (motive := fun s => s.cacheMode = w.cacheMode) ops _ rfl fun s hs op _ =>
    (cacheMode_const s op).trans hs

theorem run_entries {w : World} (hc : w.cacheMode = false) {ops : List Op} {j : Nat} {e : Entry}
    (he : e ∈ (run w ops).sessions j) :
    e ∈ w.sessions j ∨ ∃ n s, Op.begin j n s e.data ∈ ops ∧ e.key = keyOf n (some s) := by
  refine (List.foldlRecOn (motive := fun (w' : World) => w'.cacheMode = false ∧ ∀ e ∈ w'.sessions j,
    e ∈ w.sessions j ∨ ∃ n s, Op.begin j n s e.data ∈ ops ∧ e.key = keyOf n (some s)) ops _
    ⟨hc, fun _ => .inl⟩ ?_).2 e he
  intro w' ⟨hc', h⟩ op hop
  refine ⟨(cacheMode_const w' op).trans hc', fun e he => ?_⟩
  rcases step_entries hc' he with he | ⟨n, s, rfl, hk⟩
  · exact h e he
  · exact .inr ⟨n, s, hop, hk⟩

/-- **Session storage, every history**: whenever a callback goes on to the token endpoint, an earlier
    authorization redirect *in the same user session* created exactly that state key, and the
    code_verifier / nonce / redirect_uri sent and used are the ones that redirect saved. -/
theorem callback_proceeds_implies_begun_in_same_session_partial (starlette oauth1 : Bool) (now : Int) (ops : List Op)
    (i : Nat) (n : String) (st : Option String) (d : Data)
    (h : (step (run (init false starlette now oauth1) ops) (.callback i n st)).2 = .proceeds d) :
    ∃ n' s', Op.begin i n' s' d ∈ ops ∧ keyOf n' (some s') = keyOf n st := by
  obtain ⟨e, hm, hk, hd⟩ := callback_proceeds_implies_own_entry_partial (by rw [run_cacheMode]; rfl) h
  rcases run_entries rfl hm with hm | ⟨n', s', hb, hk'⟩
  · cases hm
  · exact ⟨n', s', hd ▸ hb, hk' ▸ hk⟩

/-- **Single use, every history**: after a callback for a state, any later callback in that session for
    the same state is a mismatch, whatever happened in between — unless that session began a new flow
    that created the same key again. -/
theorem state_single_use_partial (w : World) (hc : w.cacheMode = false) (i : Nat) (n : String) (st : Option String)
    (later : List Op) (hno : ∀ n' s d, Op.begin i n' s d ∈ later → keyOf n' (some s) ≠ keyOf n st) :
    (step (run (step w (.callback i n st)).1 later) (.callback i n st)).2 = .mismatch := by
  have hc' := (cacheMode_const w (.callback i n st)).trans hc
  refine callback_without_entry_is_mismatch_partial _ ((run_cacheMode _ _).trans hc') i n st fun e he => ?_
  rcases run_entries hc' he with he | ⟨n', s, hop, hk⟩
  · exact callback_consumes_partial w hc i n st e he
  · exact hk ▸ hno n' s _ hop

/-- the redirect_uri sent to the token endpoint is the one saved for the state whenever one was saved —
    a registered default never replaces it -/
theorem sent_redirect_is_the_saved_one (defaults : List (String × String)) (name : String) (d : Data) (r : String)
    (h : d.redirect = some r) : sentRedirect defaults name d = some r := by
  simp [sentRedirect, h]

/-- two (provider, state) pairs give the same session key only if they are the same pair, provided
    the provider names contain no '_' -/
theorem keyOf_injective (n1 n2 : String) (s1 s2 : Option String) (h1 : '_' ∉ n1.toList) (h2 : '_' ∉ n2.toList)
    (h : keyOf n1 s1 = keyOf n2 s2) : n1 = n2 ∧ s1.getD "None" = s2.getD "None" := by
  have h' : n1.toList ++ '_' :: (s1.getD "None").toList = n2.toList ++ '_' :: (s2.getD "None").toList := by
    simpa [keyOf] using congrArg String.toList h
  obtain ⟨ha, hb⟩ := List.append_cons_inj_of_not_mem _ _ h1 h2 h'
  exact ⟨String.toList_inj.mp ha, String.toList_inj.mp hb⟩

def dWit : Data := ⟨some "https://rp/cb", some "verifier", some "nonce"⟩

/-- with a shared cache a *different* session completes the flow session 0 started (replayed on the real
    integrations) -/
theorem cache_mode_foreign_session_completes :
    (step (step (init true false 0) (.begin 0 "p1" "S" dWit)).1 (.callback 1 "p1" (some "S"))).2 = .proceeds dWit := by
  decide

/-- non-vacuity of the session theorems: the same two steps in session mode are a mismatch, and the
    owner's callback proceeds -/
example : (step (step (init false false 0) (.begin 0 "p1" "S" dWit)).1 (.callback 1 "p1" (some "S"))).2 = .mismatch := by decide
example : (step (step (init false false 0) (.begin 0 "p1" "S" dWit)).1 (.callback 0 "p1" (some "S"))).2 = .proceeds dWit := by decide

/-- and the underscore collision the injectivity hypothesis excludes is real -/
example : keyOf "a" (some "b_X") = keyOf "a_b" (some "X") := by decide

end Props.C14
