import Model.OAuth1Sig
import Lemmas.Percent
import Lemmas.List
import Lemmas.Base64
/-
  C11 — OAuth 1.0 signature base string: injectivity (what it determines), tamper detection as a
  reduction to a MAC collision, secrets, and the two places where the code deviates from
  RFC 5849 §3.4.1 (negation witnesses; see known_findings.json).
-/
namespace Props.C11
open Model Model.Percent Model.OAuth1Sig

theorem escape_injective {a b : Bytes} (h : escape a = escape b) : a = b := by
  have ha := unquote_quote safeTilde (by decide) a
  have hb := unquote_quote safeTilde (by decide) b
  unfold escape at h
  rw [h] at ha
  exact ha.symm.trans hb

theorem amp_not_in_escape (b : Bytes) : (38 : UInt8) ∉ escape b :=
  not_mem_quote safeTilde 38 (by decide) (by decide) (by decide) b

theorem eq_not_in_escape (b : Bytes) : (61 : UInt8) ∉ escape b :=
  not_mem_quote safeTilde 61 (by decide) (by decide) (by decide) b

/-- the base string determines method (up to case), URI and the normalised parameter string: the three escaped
    parts hold no `&`, so the `&`s that join them are found again -/
theorem base_string_injective (m m' u u' p p' : Bytes)
    (h : baseStringOf m u p = baseStringOf m' u' p') :
    m.map upperB = m'.map upperB ∧ u = u' ∧ p = p' := by
  simp only [baseStringOf, join] at h
  obtain ⟨h1, h⟩ := List.append_cons_inj_of_not_mem _ _ (amp_not_in_escape _) (amp_not_in_escape _) h
  obtain ⟨h2, h3⟩ := List.append_cons_inj_of_not_mem _ _ (amp_not_in_escape _) (amp_not_in_escape _) h
  exact ⟨escape_injective h1, escape_injective h2, escape_injective h3⟩

/-- the string is the `&`-joined `name=value` form of the sorted escaped pairs, and escaped text holds neither `&`
    nor `=` -/
theorem normalized_determines_sorted {ps qs : List (Bytes × Bytes)}
    (h : normalizeParameters ps = normalizeParameters qs) : sortedEscaped ps = sortedEscaped qs := by
  have back : ∀ rs : List (Bytes × Bytes), splitPairs (normalizeParameters rs) = sortedEscaped rs := by
    intro rs
    apply splitPairs_join
    intro x hx
    have := (List.mergeSort_perm (rs.map fun (k, v) => (escape k, escape v)) lePair).mem_iff.mp hx
    obtain ⟨⟨k, v⟩, _, rfl⟩ := List.mem_map.mp this
    exact ⟨amp_not_in_escape k, eq_not_in_escape k, amp_not_in_escape v⟩
  rw [← back ps, h, back qs]

/-- …hence the two parameter collections are the same multiset (after escaping) -/
theorem normalized_determines_multiset (ps qs : List (Bytes × Bytes))
    (h : normalizeParameters ps = normalizeParameters qs) :
    (ps.map fun (k, v) => (escape k, escape v)).Perm (qs.map fun (k, v) => (escape k, escape v)) := by
  have := normalized_determines_sorted h
  unfold sortedEscaped at this
  exact ((List.mergeSort_perm _ lePair).symm.trans (this ▸ List.Perm.refl _)).trans (List.mergeSort_perm _ lePair)

/-- changing either shared secret changes the signing key -/
theorem secret_change_changes_key (cs ts cs' ts' : Bytes) (h : sigKey cs ts = sigKey cs' ts') :
    cs = cs' ∧ ts = ts' := by
  obtain ⟨h1, h2⟩ := List.append_cons_inj_of_not_mem _ _ (amp_not_in_escape cs) (amp_not_in_escape cs') h
  exact ⟨escape_injective h1, escape_injective h2⟩

/-- **Tamper detection, as a reduction.** If a signature made for base string `bs` under secrets
    `(cs, ts)` is accepted for a *different* base string `bs'` under the same secrets, then `bs`, `bs'`
    is an explicit collision of the MAC `H` under that key. (HMAC-SHA1 is the instance used.) -/
theorem hmac_tamper_reduces_to_collision (H : Bytes → Bytes → Bytes) (bs bs' cs ts : Bytes)
    (hacc : verifyHmac H bs' cs ts (hmacSignature H bs cs ts) = true) :
    H (sigKey cs ts) bs' = H (sigKey cs ts) bs := by
  unfold verifyHmac hmacSignature at hacc
  exact Base64.stdEncode_injective (by simpa using hacc)

/-- …and with the base-string injectivity: an accepted request that differs in method (up to case),
    normalised URI or normalised parameters from the signed one yields a collision on two
    *different* MAC inputs. -/
theorem tampered_request_is_collision (H : Bytes → Bytes → Bytes) (m u p m' u' p' cs ts : Bytes)
    (hdiff : m.map upperB ≠ m'.map upperB ∨ u ≠ u' ∨ p ≠ p')
    (hacc : verifyHmac H (baseStringOf m' u' p') cs ts (hmacSignature H (baseStringOf m u p) cs ts) = true) :
    baseStringOf m u p ≠ baseStringOf m' u' p' ∧
    H (sigKey cs ts) (baseStringOf m' u' p') = H (sigKey cs ts) (baseStringOf m u p) := by
  refine ⟨?_, hmac_tamper_reduces_to_collision H _ _ cs ts hacc⟩
  intro e
  obtain ⟨a, b, c⟩ := base_string_injective m m' u u' p p' e
  rcases hdiff with h | h | h
  · exact h a
  · exact h b
  · exact h c

/-- RFC 5849 §3.4.1.3.1: query and body parameters are all included; from the Authorization header
    everything except `realm`; `oauth_signature` excluded everywhere; values are used as decoded. -/
def specCollect (queryBody header : List (Bytes × Bytes)) : List (Bytes × Bytes) :=
  (queryBody.filter fun p => p.1 != kSignature) ++
  (header.filter fun p => p.1 != kSignature && p.1 != kRealm)

/-- guard 1: no query/body parameter is called `realm` -/
def NoNonHeaderRealm (queryBody : List (Bytes × Bytes)) : Prop := ∀ p ∈ queryBody, p.1 ≠ kRealm

/-- guard 2: no `oauth_*` value contains `%` (so the extra `unescape` is the identity) -/
def NoPercentInOauthValues (ps : List (Bytes × Bytes)) : Prop :=
  ∀ p ∈ ps, startsWith oauthPrefix p.1 = true → (37 : UInt8) ∉ p.2

theorem collect_eq_filter (ps : List (Bytes × Bytes)) (h : NoPercentInOauthValues ps) :
    collect ps = ps.filter fun p => p.1 != kSignature && p.1 != kRealm := by
  apply List.filterMap_eq_filter_of
  intro p hp
  have hv : (if startsWith oauthPrefix p.1 then unescape p.2 else p.2) = p.2 := by
    split
    next hs => exact unquote_of_not_mem p.2 (h p hp hs)
    · rfl
  rw [hv]
  cases h1 : p.1 == kSignature <;> cases h2 : p.1 == kRealm <;> simp [bne, h1, h2]

theorem base_string_eq_rfc_partial (queryBody header : List (Bytes × Bytes))
    (h1 : NoNonHeaderRealm queryBody) (h2 : NoPercentInOauthValues (queryBody ++ header)) :
    collect (queryBody ++ header) = specCollect queryBody header := by
  rw [collect_eq_filter _ h2, List.filter_append, specCollect]
  congr 1
  apply List.filter_congr
  intro p hp
  have : (p.1 != kRealm) = true := by simpa using h1 p hp
  rw [this, Bool.and_true]

/-- **Negation 1** (known finding): a *query* parameter named `realm` is dropped from the base
    string, so its value can be changed without invalidating the signature. -/
theorem base_string_eq_rfc_false_realm :
    collect [(kRealm, [102, 111, 111])] = collect [(kRealm, [98, 97, 114])] ∧
    specCollect [(kRealm, [102, 111, 111])] [] ≠ specCollect [(kRealm, [98, 97, 114])] [] := by
  decide +kernel

/-- **Negation 2** (known finding): an `oauth_*` value is percent-decoded a second time, so
    `oauth_callback = "a%20b"` and `"a b"` give the same base string, unlike RFC 5849. -/
theorem base_string_eq_rfc_false_double_unescape :
    let k := oauthPrefix ++ [99, 97, 108, 108, 98, 97, 99, 107]
    collect [(k, [97, 37, 50, 48, 98])] = collect [(k, [97, 32, 98])] ∧
    specCollect [(k, [97, 37, 50, 48, 98])] [] ≠ specCollect [(k, [97, 32, 98])] [] := by
  decide +kernel

end Props.C11
