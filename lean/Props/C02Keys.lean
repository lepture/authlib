import Generated.KeyFamily
import Generated.KeyOps
import Model.KeyOps
/-
  C02 over two tables regenerated from the current code. `prepareKey` (what `prepare_key` of every algorithm does
  with every kind and form of key, see Props/C20Keys): symmetric and asymmetric material never cross — a symmetric
  algorithm takes only an oct key, never the PEM text of an asymmetric one, and an asymmetric algorithm no oct key.
  `keyOps` (the operations each algorithm asks its key to permit): a restriction by `use` or `key_ops` is honoured.
-/
namespace Props.C02Keys
open Generated.KeyFamily

def cls (r : String × String × String × String × String × String) : String := r.2.2.1
def kty (r : String × String × String × String × String × String) : String := r.2.2.2.1
def form (r : String × String × String × String × String × String) : String := r.2.2.2.2.1
def outcome (r : String × String × String × String × String × String) : String := r.2.2.2.2.2

def symmetric (c : String) : Bool := c == "HMACAlgorithm" || c == "AESAlgorithm" || c == "AESGCMAlgorithm" || c == "DirectAlgorithm"
def asymmetric (c : String) : Bool :=
  c == "RSAAlgorithm" || c == "RSAPSSAlgorithm" || c == "ECAlgorithm" || c == "EdDSAAlgorithm" || c == "ECDHESAlgorithm" || c == "ECDH1PUAlgorithm"

/-- the facts about the `prepareKey` table, decided together: the kernel then compares the class and key-type names of
    the rows once (DESIGN §3.1) -/
theorem key_family_table :
    (∀ r ∈ prepareKey, symmetric (cls r) = true → outcome r = "ok" → kty r = "oct") ∧
    (∀ r ∈ prepareKey, asymmetric (cls r) = true → kty r = "oct" → outcome r = "ValueError") ∧
    (∀ r ∈ prepareKey, (cls r = "RSAAlgorithm" ∨ cls r = "RSAPSSAlgorithm") → outcome r = "ok" → kty r = "RSA") ∧
    (∀ r ∈ prepareKey, cls r = "ECAlgorithm" → outcome r = "ok" → kty r = "EC") ∧
    (∀ r ∈ prepareKey, symmetric (cls r) = true ∨ asymmetric (cls r) = true ∨ cls r = "NoneAlgorithm") ∧
    (∃ r ∈ prepareKey, cls r = "HMACAlgorithm" ∧ kty r = "oct" ∧ outcome r = "ok") ∧
    (∃ r ∈ prepareKey, cls r = "ECAlgorithm" ∧ kty r = "EC" ∧ outcome r = "ok") := by
  decide +kernel

theorem symmetric_alg_takes_only_oct_keys :
    ∀ r ∈ prepareKey, symmetric (cls r) = true → outcome r = "ok" → kty r = "oct" := key_family_table.1

theorem asymmetric_alg_refuses_oct_keys :
    ∀ r ∈ prepareKey, asymmetric (cls r) = true → kty r = "oct" → outcome r = "ValueError" := key_family_table.2.1

theorem rsa_alg_takes_only_rsa_keys :
    ∀ r ∈ prepareKey, (cls r = "RSAAlgorithm" ∨ cls r = "RSAPSSAlgorithm") → outcome r = "ok" → kty r = "RSA" :=
  key_family_table.2.2.1

theorem ec_signature_alg_takes_only_ec_keys :
    ∀ r ∈ prepareKey, cls r = "ECAlgorithm" → outcome r = "ok" → kty r = "EC" := key_family_table.2.2.2.1

/-- every implementing class in the table is classified (so the theorems above leave no algorithm out, `none` apart) -/
theorem classes_covered : ∀ r ∈ prepareKey, symmetric (cls r) = true ∨ asymmetric (cls r) = true ∨ cls r = "NoneAlgorithm" :=
  key_family_table.2.2.2.2.1

/-- non-vacuity: the matching cells succeed -/
example : ∃ r ∈ prepareKey, cls r = "HMACAlgorithm" ∧ kty r = "oct" ∧ outcome r = "ok" := key_family_table.2.2.2.2.2.1
example : ∃ r ∈ prepareKey, cls r = "ECAlgorithm" ∧ kty r = "EC" ∧ outcome r = "ok" := key_family_table.2.2.2.2.2.2

open Model.KeyOps Generated.KeyOps

theorem performs_false {requested : List String} {k : Restr} {op : String} (hop : op ∈ requested)
    (h : check k op ≠ .ok) : performs requested k = false :=
  List.all_eq_false.mpr ⟨op, hop, by simpa using h⟩

theorem check_restricted {k : Restr} {op : String} {l : List String} (hk : k.keyOps = some l) (hl : op ∉ l) :
    check k op = .unsupportedKeyOp := by
  have : opsForbid k op = true := by simp [opsForbid, hk, hl]
  simp [check, this]

/-- a key whose key_ops does not list an operation the algorithm asks about is refused -/
theorem restricted_key_refused (requested : List String) (k : Restr) (op : String) (l : List String)
    (hop : op ∈ requested) (hk : k.keyOps = some l) (hl : op ∉ l) : performs requested k = false :=
  performs_false hop (by rw [check_restricted hk hl]; decide)

theorem useVerdict_mismatch {k : Restr} {op u : String} (hu : k.use = some u) (hne : u.isEmpty = false)
    (hmis : (op ∈ encOps ∧ op ∉ sigOps ∧ u ≠ "enc") ∨ (op ∈ sigOps ∧ u ≠ "sig")) :
    useVerdict k op = .invalidUse := by
  unfold useVerdict
  rw [hu]
  rcases hmis with ⟨he, hs, hn⟩ | ⟨hs, hn⟩
  · simp [hne, hs, he, hn]
  · simp [hne, hs, hn]

theorem check_use_mismatch {k : Restr} {op u : String} (hu : k.use = some u) (hne : u.isEmpty = false)
    (hmis : (op ∈ encOps ∧ op ∉ sigOps ∧ u ≠ "enc") ∨ (op ∈ sigOps ∧ u ≠ "sig")) :
    check k op ≠ .ok := by
  fun_cases check k op
  · decide
  · decide
  · rw [useVerdict_mismatch hu hne hmis]
    decide

/-- a key marked for signatures is refused by everything that asks about an encryption operation, and vice versa -/
theorem use_mismatch_refused (requested : List String) (k : Restr) (op u : String) (hop : op ∈ requested) (hu : k.use = some u) (hne : u.isEmpty = false)
    (hmis : (op ∈ encOps ∧ op ∉ sigOps ∧ u ≠ "enc") ∨ (op ∈ sigOps ∧ u ≠ "sig")) :
    performs requested k = false :=
  performs_false hop (check_use_mismatch hu hne hmis)

def prod (r : String × String × String × List String × List String) : List String := r.2.2.2.1
def cons (r : String × String × String × List String × List String) : List String := r.2.2.2.2
def kcls (r : String × String × String × List String × List String) : String := r.2.2.1

/-- regenerated table: every signature algorithm asks "sign" to produce and "verify" to consume -/
theorem jws_asks_sign_and_verify : ∀ r ∈ keyOps, r.1 = "jws" → prod r = ["sign"] ∧ cons r = ["verify"] := by
  decide +kernel

/-- every key-management algorithm asks an encryption-side operation of the key it produces with … -/
theorem jwe_producing_side_asks : ∀ r ∈ keyOps, r.1 = "jwe" → prod r = ["wrapKey"] ∨ prod r = ["encrypt"] := by
  decide +kernel

/-- … and the matching one of the key it consumes with — except the ECDH-ES family -/
theorem jwe_consuming_side_asks_partial : ∀ r ∈ keyOps, r.1 = "jwe" → kcls r ≠ "ECDHESAlgorithm" →
    (prod r = ["wrapKey"] → cons r = ["unwrapKey"]) ∧ (prod r = ["encrypt"] → cons r = ["decrypt"]) := by
  decide +kernel

/-- hence (with `use_mismatch_refused`) no algorithm outside the ECDH-ES family decrypts with a `use: sig` key -/
theorem sig_key_never_decrypts_partial : ∀ r ∈ keyOps, r.1 = "jwe" → kcls r ≠ "ECDHESAlgorithm" →
    ∀ k : Restr, k.use = some "sig" → performs (cons r) k = false := by
  intro r hr hj hc k hu
  have h := jwe_consuming_side_asks_partial r hr hj hc
  rcases jwe_producing_side_asks r hr hj with hp | hp
  · rw [h.1 hp]
    exact use_mismatch_refused _ k "unwrapKey" "sig" (by simp) hu (by decide) (Or.inl ⟨by decide, by decide, by decide⟩)
  · rw [h.2 hp]
    exact use_mismatch_refused _ k "decrypt" "sig" (by simp) hu (by decide) (Or.inl ⟨by decide, by decide, by decide⟩)

/-- the full sentence is false: ECDH-ES decryption asks nothing of the recipient key, so every key "performs"
    (known finding C02-ecdh-decrypt-ignores-use-and-key_ops) -/
theorem ecdh_consuming_side_asks_nothing :
    (∃ r ∈ keyOps, kcls r = "ECDHESAlgorithm" ∧ cons r = []) ∧ ∀ k : Restr, performs [] k = true :=
  ⟨by decide +kernel, fun _ => rfl⟩

example : performs ["unwrapKey"] ⟨some "enc", some ["unwrapKey"], false⟩ = true := by decide +kernel
example : performs ["unwrapKey"] ⟨none, some ["wrapKey"], false⟩ = false := by decide +kernel

end Props.C02Keys
