import Model.Provider
import Generated.Grants
import Lemmas.List
/-
  C06 — the PKCE syntax checks, for EVERY string: the regenerated `CODE_VERIFIER_PATTERN` /
  `CODE_CHALLENGE_PATTERN` accept exactly the RFC 7636 §4.1 / §4.2 strings: 43 to 128 characters, each
  one of ALPHA / DIGIT / "-" / "." / "_" / "~"; nothing after them (no trailing newline).
-/
namespace Props.C06Pkce
open Model Model.Text Model.Regex

/-- RFC 7636 `unreserved = ALPHA / DIGIT / "-" / "." / "_" / "~"` -/
def unreserved (c : Char) : Bool :=
  let n := c.toNat
  (65 ≤ n && n ≤ 90) || (97 ≤ n && n ≤ 122) || (48 ≤ n && n ≤ 57) || n == 45 || n == 46 || n == 95 || n == 126

/-- the anchored class-repeat match without `$`: the whole string is between `lo` and `hi` characters of the class -/
theorem matchClassRepeat_noDollar_iff (rs : List (Nat × Nat)) (lo hi : Nat) (s : Str) :
    matchClassRepeat rs lo hi false s = true ↔ lo ≤ s.length ∧ s.length ≤ hi ∧ ∀ c ∈ s, inRanges rs c = true := by
  have hle := (List.takeWhile_sublist (inRanges rs) (l := s)).length_le
  simp only [matchClassRepeat, Bool.false_and, Bool.or_false]
  rw [← List.length_takeWhile_eq_length_iff]
  generalize (s.takeWhile (inRanges rs)).length = k at hle ⊢
  -- `k` is the length of the leading class run, `m` the longest repeat: some length in `[lo, m]` leaves nothing over
  -- iff `lo ≤ m` and `m` reaches the end of `s`
  rw [show lo ≤ s.length ∧ s.length ≤ hi ∧ k = s.length ↔ lo ≤ min k hi ∧ s.length ≤ min k hi by omega]
  generalize min k hi = m
  split
  · simp only [Bool.false_eq_true, false_iff]
    omega
  · simp only [List.any_eq_true, List.mem_range, List.isEmpty_iff, List.drop_eq_nil_iff]
    constructor
    · rintro ⟨i, hi', hd⟩
      omega
    · intro h
      exact ⟨m - lo, by omega, by omega⟩

theorem range_single (a n : Nat) : (decide (a ≤ n) && decide (n ≤ a)) = (n == a) := by
  rw [Bool.eq_iff_iff]
  simp only [Bool.and_eq_true, decide_eq_true_eq, beq_iff_eq]
  omega

/-- the character class of both regenerated patterns is exactly RFC 7636's `unreserved`: the same intervals, listed in
    another order, with the single characters written as one-point ranges -/
theorem class_is_unreserved (c : Char) :
    inRanges Generated.Grants.codeVerifierRanges c = unreserved c ∧ inRanges Generated.Grants.codeChallengeRanges c = unreserved c := by
  simp only [inRanges, unreserved, Generated.Grants.codeVerifierRanges, Generated.Grants.codeChallengeRanges,
    List.any_cons, List.any_nil, Bool.or_false, range_single]
  constructor
  · ac_rfl
  · ac_rfl

theorem matchClassRepeat_unreserved_iff {rs : List (Nat × Nat)} (hrs : ∀ c, inRanges rs c = unreserved c) (lo hi : Nat)
    (s : Str) :
    matchClassRepeat rs lo hi false s = true ↔ lo ≤ s.length ∧ s.length ≤ hi ∧ ∀ c ∈ s, unreserved c = true := by
  simp only [matchClassRepeat_noDollar_iff, hrs]

/-- **`code_verifier` syntax.** For every string: the provider's verifier check passes iff the string is 43–128
    characters of RFC 7636 `unreserved` — in particular a trailing newline, 42 or 129 characters, or one character
    outside the alphabet fail it -/
theorem verifier_accepted_iff_rfc7636 (v : String) :
    Model.Provider.verifierWellFormed v = true ↔ 43 ≤ v.toList.length ∧ v.toList.length ≤ 128 ∧ ∀ c ∈ v.toList, unreserved c = true :=
  -- `43`, `128` and the `false` of "no `$`" are the regenerated `codeVerifierMin`, `codeVerifierMax` and
  -- `codeVerifierEndIsDollar` by unfolding: were the pattern in the code to change, this term would no longer have this type
  matchClassRepeat_unreserved_iff (fun c => (class_is_unreserved c).1) 43 128 v.toList

/-- the same for `code_challenge` -/
theorem challenge_accepted_iff_rfc7636 (v : String) :
    Model.Provider.challengeWellFormed v = true ↔ 43 ≤ v.toList.length ∧ v.toList.length ≤ 128 ∧ ∀ c ∈ v.toList, unreserved c = true :=
  matchClassRepeat_unreserved_iff (fun c => (class_is_unreserved c).2) 43 128 v.toList

/-- non-vacuity and the boundary cases of the property text -/
example : Model.Provider.verifierWellFormed (String.ofList (List.replicate 43 'a')) = true ∧ Model.Provider.verifierWellFormed (String.ofList (List.replicate 42 'a')) = false ∧
    Model.Provider.verifierWellFormed (String.ofList (List.replicate 43 'a' ++ ['\n'])) = false ∧ Model.Provider.verifierWellFormed (String.ofList (List.replicate 43 '-')) = true := by
  -- evaluated on the character lists: the kernel is slow on `String.ofList` / `toList`
  simp only [Model.Provider.verifierWellFormed, String.toList_ofList]
  decide +kernel

end Props.C06Pkce
