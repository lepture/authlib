import Model.Claims
import Lemmas.List
import Lemmas.Claims
/-
  C04 — JWT claims validation accepts exactly the tokens its options allow (`validate_ok_iff_conforms`).
  Allowances (DESIGN §3.2): `value`/`values`/`validate` count for iss, sub, jti and private claims, `value`/`values`
  for aud (RFC 7519 §4.1.3: only when the claim is present and non-empty), for exp/nbf/iat only `essential` and the
  time window; falsy expected values constrain nothing.
-/
namespace Props.C04
open Model.Claims

/-- claims whose value / values / validate options go through `_validate_claim_value` -/
def valueClaim (k : String) : Prop := k ≠ "aud" ∧ k ≠ "exp" ∧ k ≠ "nbf" ∧ k ≠ "iat"

instance (k : String) : Decidable (valueClaim k) := by
  unfold valueClaim
  infer_instance

/-- The property statement. Times are in quarters of a second. -/
structure Conforms (c : Claims) (o : Options) (now lw : Int) : Prop where
  exp_ok : ∀ v, c.lookup "exp" = some v → ∃ q, v.numericDate = some q ∧ now - lw ≤ q
  nbf_ok : ∀ v, c.lookup "nbf" = some v → ∃ q, v.numericDate = some q ∧ q ≤ now + lw
  iat_ok : ∀ v, c.lookup "iat" = some v → ∃ q, v.numericDate = some q ∧ q ≤ now + lw
  essential_ok : ∀ k opt, o.lookup k = some opt → opt.essential = true →
      ∃ v, c.lookup k = some v ∧ v.truthy = true
  value_ok : ∀ k opt ev, valueClaim k → o.lookup k = some opt → opt.value = some ev →
      ev.truthy = true → (getD c k).pyEq ev = true
  values_ok : ∀ k opt evs, valueClaim k → o.lookup k = some opt → opt.values = some evs →
      evs ≠ [] → pyIn (getD c k) evs = true
  validator_ok : ∀ k opt f, valueClaim k → o.lookup k = some opt → opt.validate = some f →
      f.run c (getD c k) = true
  aud_ok : ∀ opt a, o.lookup "aud" = some opt → c.lookup "aud" = some a → a.truthy = true →
      expectedAud opt ≠ [] → ∃ v ∈ expectedAud opt, pyIn v (audList a) = true

/-- What it means for the constraint an error names to be actually violated. -/
def Violates (c : Claims) (o : Options) (now lw : Int) : Err → Prop
  | .missing k => ∃ opt, o.lookup k = some opt ∧ opt.essential = true ∧ c.lookup k = none
  | .invalid k =>
      (∃ opt v, o.lookup k = some opt ∧ opt.essential = true ∧ c.lookup k = some v ∧ v.truthy = false)
    ∨ ((k = "exp" ∨ k = "nbf" ∨ k = "iat") ∧ ∃ v, c.lookup k = some v ∧ v.numericDate = none)
    ∨ (valueClaim k ∧ ∃ opt, o.lookup k = some opt ∧
        ((∃ ev, opt.value = some ev ∧ ev.truthy = true ∧ (getD c k).pyEq ev = false)
        ∨ (∃ evs, opt.values = some evs ∧ evs ≠ [] ∧ pyIn (getD c k) evs = false)
        ∨ (∃ f, opt.validate = some f ∧ f.run c (getD c k) = false)))
    ∨ (k = "aud" ∧ ∃ opt a, o.lookup "aud" = some opt ∧ c.lookup "aud" = some a ∧ a.truthy = true ∧
        expectedAud opt ≠ [] ∧ ∀ v ∈ expectedAud opt, pyIn v (audList a) = false)
  | .expired => ∃ v q, c.lookup "exp" = some v ∧ v.numericDate = some q ∧ q < now - lw
  | .invalidToken =>
      (∃ v q, c.lookup "nbf" = some v ∧ v.numericDate = some q ∧ q > now + lw)
    ∨ (∃ v q, c.lookup "iat" = some v ∧ v.numericDate = some q ∧ q > now + lw)

theorem optTruthy_some {x : Option Val} {v : Val} :
    optTruthy x = some v ↔ x = some v ∧ v.truthy = true := by
  fun_cases optTruthy x
  next hw => exact ⟨fun h => ⟨h, Option.some.inj h ▸ hw⟩, And.left⟩
  next hw => exact ⟨nofun, fun ⟨h, ht⟩ => absurd (Option.some.inj h ▸ ht) hw⟩
  · exact ⟨nofun, fun h => nomatch h.1⟩

theorem optTruthy_none {x : Option Val} :
    optTruthy x = none ↔ ∀ v, x = some v → v.truthy = false := by
  fun_cases optTruthy x <;> simp [*]

theorem optListTruthy_some {x : Option (List Val)} {l : List Val} :
    optListTruthy x = some l ↔ x = some l ∧ l ≠ [] := by
  fun_cases optListTruthy x
  next hw => exact ⟨nofun, fun ⟨h, hne⟩ => absurd (Option.some.inj h ▸ List.isEmpty_iff.mp hw) hne⟩
  next hw => exact ⟨fun h => ⟨h, Option.some.inj h ▸ mt List.isEmpty_iff.mpr hw⟩, And.left⟩
  · exact ⟨nofun, fun h => nomatch h.1⟩

theorem optListTruthy_none {x : Option (List Val)} :
    optListTruthy x = none ↔ ∀ l, x = some l → l = [] := by
  fun_cases optListTruthy x <;> simp_all

theorem claimValue_none {c : Claims} {o : Options} {k : String} {opt : Opt} (h : claimValue c o k = none)
    (hl : o.lookup k = some opt) :
    (∀ ev, opt.value = some ev → ev.truthy = true → (getD c k).pyEq ev = true) ∧
    (∀ evs, opt.values = some evs → evs ≠ [] → pyIn (getD c k) evs = true) ∧
    (∀ f, opt.validate = some f → f.run c (getD c k) = true) := by
  simp only [claimValue, hl, orElse'_eq_none] at h
  obtain ⟨h1, h2, h3⟩ := h
  refine ⟨fun ev hv ht => ?_, fun evs hv hne => ?_, fun f hf => ?_⟩
  · simpa [optTruthy_some.mpr ⟨hv, ht⟩] using h1
  · simpa [optListTruthy_some.mpr ⟨hv, hne⟩] using h2
  · simpa [hf] using h3

theorem claimValue_some {c : Claims} {o : Options} {now lw : Int} {k : String} {e : Err} (hk : valueClaim k)
    (h : claimValue c o k = some e) : Violates c o now lw e := by
  revert h
  fun_cases claimValue c o k
  · nofun
  next opt hl _ =>
    intro h
    have viol := fun hcases => show Violates c o now lw (.invalid k) from .inr (.inr (.inl ⟨hk, opt, hl, hcases⟩))
    rcases orElse'_eq_some h with h | h
    · split at h
      next ev hev =>
        obtain ⟨hv, ht⟩ := optTruthy_some.mp hev
        obtain ⟨hne, ⟨⟩⟩ := Option.ite_none_left_eq_some.mp h
        exact viol (.inl ⟨ev, hv, ht, Bool.eq_false_iff.mpr hne⟩)
      · cases h
    rcases orElse'_eq_some h with h | h
    · split at h
      next evs hevs =>
        obtain ⟨hv, hne⟩ := optListTruthy_some.mp hevs
        obtain ⟨hnin, ⟨⟩⟩ := Option.ite_none_left_eq_some.mp h
        exact viol (.inr (.inl ⟨evs, hv, hne, Bool.eq_false_iff.mpr hnin⟩))
      · cases h
    · split at h
      next f hf =>
        obtain ⟨hrun, ⟨⟩⟩ := Option.ite_none_left_eq_some.mp h
        exact viol (.inr (.inr ⟨f, hf, Bool.eq_false_iff.mpr hrun⟩))
      · cases h

theorem checkAud_none {c : Claims} {o : Options} {opt : Opt} {a : Val} (h : checkAud c o = none)
    (hl : o.lookup "aud" = some opt) (ha : c.lookup "aud" = some a) (ht : a.truthy = true)
    (hne : expectedAud opt ≠ []) : ∃ v ∈ expectedAud opt, pyIn v (audList a) = true := by
  simpa [checkAud, hl, getD, ha, ht, hne] using h

theorem checkAud_some {c : Claims} {o : Options} {now lw : Int} {e : Err} (h : checkAud c o = some e) :
    Violates c o now lw e := by
  revert h
  fun_cases checkAud c o <;> intro h <;> cases h
  next opt hl aud ht exp hne hany =>
    cases ha : c.lookup "aud" with
    | none => simp [aud, getD, ha, Val.truthy] at ht
    | some a =>
      simp only [aud, exp, getD, ha, Option.getD_some, List.any_eq_true, not_exists, not_and, Bool.not_eq_true,
        Bool.not_eq_true', Bool.not_eq_false, List.isEmpty_iff] at ht hne hany
      exact .inr (.inr (.inr ⟨rfl, opt, a, hl, ha, ht, hne, hany⟩))

/-- the shape `validate_exp`, `validate_nbf` and `validate_iat` share; `bad`: the date lies outside the window -/
def timeCheck (c : Claims) (k : String) (bad : Int → Prop) [DecidablePred bad] (e : Err) : Option Err :=
  match c.lookup k with
  | none => none
  | some v => match v.numericDate with
    | none => some (.invalid k)
    | some q => if bad q then some e else none

theorem checkExp_eq (c : Claims) (now lw : Int) :
    checkExp c now lw = timeCheck c "exp" (· < now - lw) .expired := rfl

theorem checkNbf_eq (c : Claims) (now lw : Int) :
    checkNbf c now lw = timeCheck c "nbf" (· > now + lw) .invalidToken := rfl

theorem checkIat_eq (c : Claims) (now lw : Int) :
    checkIat c now lw = timeCheck c "iat" (· > now + lw) .invalidToken := rfl

theorem timeCheck_none {c : Claims} {k : String} {bad : Int → Prop} [DecidablePred bad] {e : Err}
    (h : timeCheck c k bad e = none) (v : Val) (hv : c.lookup k = some v) : ∃ q, v.numericDate = some q ∧ ¬ bad q := by
  revert h
  fun_cases timeCheck c k bad e <;> intro h <;> cases h
  next hn => cases hn.symm.trans hv
  next _ hv' q hq hb =>
    cases hv.symm.trans hv'
    exact ⟨q, hq, hb⟩

theorem timeCheck_some {c : Claims} {o : Options} {now lw : Int} {k : String} {bad : Int → Prop} [DecidablePred bad]
    {e e' : Err} (h : timeCheck c k bad e = some e') (hk : k = "exp" ∨ k = "nbf" ∨ k = "iat")
    (hbad : ∀ v q, c.lookup k = some v → v.numericDate = some q → bad q → Violates c o now lw e) :
    Violates c o now lw e' := by
  revert h
  fun_cases timeCheck c k bad e <;> intro h <;> cases h
  next v hv hn => exact .inr (.inl ⟨hk, v, hv, hn⟩)
  next v hv q hq hb => exact hbad v q hv hq hb

theorem essentialLoop_none {c : Claims} {o : Options} {ks : List String} (h : essentialLoop c o ks = none) :
    ∀ k ∈ ks, ∀ opt, o.lookup k = some opt → opt.essential = true → ∃ v, c.lookup k = some v ∧ v.truthy = true := by
  revert h
  fun_induction essentialLoop c o ks <;> intro h <;> try cases h
  · exact fun _ hk => nomatch hk
  next v hv ht ih => exact List.forall_mem_cons.mpr ⟨fun _ _ _ => ⟨v, hv, ht⟩, ih h⟩
  next _ hl he ih =>
    exact List.forall_mem_cons.mpr ⟨fun _ hl' he' => absurd (Option.some.inj (hl.symm.trans hl') ▸ he') he, ih h⟩
  next hl ih => exact List.forall_mem_cons.mpr ⟨(fun _ hl' => nomatch hl.symm.trans hl'), ih h⟩

theorem essentialLoop_some {c : Claims} {o : Options} {now lw : Int} {e : Err} {ks : List String}
    (h : essentialLoop c o ks = some e) : Violates c o now lw e := by
  revert h
  fun_induction essentialLoop c o ks <;> intro h <;> try exact ‹_ → Violates c o now lw e› h
  · cases h
  next _ _ opt hl he hc =>
    cases h
    exact ⟨opt, hl, he, hc⟩
  next _ _ opt hl he v hv ht =>
    cases h
    exact .inl ⟨opt, v, hl, he, hv, by simpa using ht⟩

theorem customLoop_none {c : Claims} {o : Options} {ks : List String} (h : customLoop c o ks = none) :
    ∀ k ∈ ks, k ∉ registered → claimValue c o k = none := by
  revert h
  fun_induction customLoop c o ks <;> intro h <;> try cases h
  · exact fun _ hk => nomatch hk
  next hr ih => exact List.forall_mem_cons.mpr ⟨fun hnr => absurd (List.contains_iff_mem.mp hr) hnr, ih h⟩
  next hcv ih => exact List.forall_mem_cons.mpr ⟨fun _ => hcv, ih h⟩

theorem customLoop_some {c : Claims} {o : Options} {e : Err} {ks : List String}
    (h : customLoop c o ks = some e) : ∃ k, k ∉ registered ∧ claimValue c o k = some e := by
  revert h
  fun_induction customLoop c o ks <;> intro h <;> try exact ‹_ → ∃ k, _› h
  · cases h
  next k _ hr _ he' =>
    cases h
    exact ⟨k, mt List.contains_iff_mem.mpr hr, he'⟩

theorem valueClaim_cases {k : String} (h : valueClaim k) : k = "iss" ∨ k = "sub" ∨ k = "jti" ∨ k ∉ registered := by
  obtain ⟨h1, h2, h3, h4⟩ := h
  by_cases a : k = "iss"
  · exact .inl a
  by_cases b : k = "sub"
  · exact .inr (.inl b)
  by_cases d : k = "jti"
  · exact .inr (.inr (.inl d))
  simp [registered, *]

theorem not_registered_valueClaim {k : String} (h : k ∉ registered) : valueClaim k := by
  simp only [registered, List.mem_cons, not_or] at h
  exact ⟨h.2.2.1, h.2.2.2.1, h.2.2.2.2.1, h.2.2.2.2.2.1⟩

theorem conforms_of_validate_none {c : Claims} {o : Options} {now lw : Int}
    (h : validate c o now lw = none) : Conforms c o now lw := by
  simp only [validate, checkExp_eq, checkNbf_eq, checkIat_eq, orElse'_eq_none] at h
  obtain ⟨hess, hiss, hsub, haud, hexp, hnbf, hiat, hjti, hcust⟩ := h
  have keys : ∀ {k opt}, o.lookup k = some opt → k ∈ o.map (·.1) := fun hl =>
    List.mem_map_of_mem (f := (·.1)) (List.mem_of_lookup_eq_some hl)
  -- iss, sub, jti are checked by name, every other value claim by the loop over the option keys
  have hcv : ∀ {k opt}, valueClaim k → o.lookup k = some opt → _ := fun {k opt} hv hl =>
    claimValue_none (c := c) (k := k) (by
      rcases valueClaim_cases hv with rfl | rfl | rfl | hr
      · exact hiss
      · exact hsub
      · exact hjti
      · exact customLoop_none hcust k (keys hl) hr) hl
  exact {
    exp_ok := fun v hv => (timeCheck_none hexp v hv).imp fun _ h => ⟨h.1, Int.not_lt.mp h.2⟩
    nbf_ok := fun v hv => (timeCheck_none hnbf v hv).imp fun _ h => ⟨h.1, Int.not_lt.mp h.2⟩
    iat_ok := fun v hv => (timeCheck_none hiat v hv).imp fun _ h => ⟨h.1, Int.not_lt.mp h.2⟩
    essential_ok := fun k opt hl => essentialLoop_none hess k (keys hl) opt hl
    value_ok := fun k opt ev hv hl => (hcv hv hl).1 ev
    values_ok := fun k opt evs hv hl => (hcv hv hl).2.1 evs
    validator_ok := fun k opt f hv hl => (hcv hv hl).2.2 f
    aud_ok := fun opt a => checkAud_none haud }

/-- When validation fails, the error names a constraint that is actually violated. -/
theorem error_names_violated_constraint (c : Claims) (o : Options) (now lw : Int) (e : Err)
    (h : validate c o now lw = some e) : Violates c o now lw e := by
  rw [validate, checkExp_eq, checkNbf_eq, checkIat_eq] at h
  rcases orElse'_eq_some h with h | h
  · exact essentialLoop_some h
  rcases orElse'_eq_some h with h | h
  · exact claimValue_some (k := "iss") (by decide) h
  rcases orElse'_eq_some h with h | h
  · exact claimValue_some (k := "sub") (by decide) h
  rcases orElse'_eq_some h with h | h
  · exact checkAud_some h
  rcases orElse'_eq_some h with h | h
  · exact timeCheck_some h (.inl rfl) fun v q hv hq hb => ⟨v, q, hv, hq, hb⟩
  rcases orElse'_eq_some h with h | h
  · exact timeCheck_some h (.inr (.inl rfl)) fun v q hv hq hb => .inl ⟨v, q, hv, hq, hb⟩
  rcases orElse'_eq_some h with h | h
  · exact timeCheck_some h (.inr (.inr rfl)) fun v q hv hq hb => .inr ⟨v, q, hv, hq, hb⟩
  rcases orElse'_eq_some h with h | h
  · exact claimValue_some (k := "jti") (by decide) h
  · obtain ⟨k, hr, hk⟩ := customLoop_some h
    exact claimValue_some (not_registered_valueClaim hr) hk

/-- A violated constraint contradicts conformance. -/
theorem violates_not_conforms (c : Claims) (o : Options) (now lw : Int) (e : Err)
    (hv : Violates c o now lw e) : ¬ Conforms c o now lw := by
  intro hc
  cases e with
  | missing k =>
    obtain ⟨opt, hl, he, hn⟩ := hv
    obtain ⟨v, hv, _⟩ := hc.essential_ok k opt hl he
    cases hn.symm.trans hv
  | invalid k =>
    rcases hv with ⟨opt, v, hl, he, hcl, ht⟩ | ⟨hk, v, hcl, hn⟩ | ⟨hvc, opt, hl, hcases⟩ |
      ⟨_, opt, a, hl, ha, ht, hne, hall⟩
    · obtain ⟨v', hv', ht'⟩ := hc.essential_ok k opt hl he
      cases hcl.symm.trans hv'
      cases ht.symm.trans ht'
    · obtain ⟨q, hq⟩ : ∃ q, v.numericDate = some q := by
        rcases hk with rfl | rfl | rfl
        · exact (hc.exp_ok v hcl).imp fun _ => And.left
        · exact (hc.nbf_ok v hcl).imp fun _ => And.left
        · exact (hc.iat_ok v hcl).imp fun _ => And.left
      cases hn.symm.trans hq
    · rcases hcases with ⟨ev, hval, ht, hne⟩ | ⟨evs, hval, hne, hnin⟩ | ⟨f, hf, hrun⟩
      · cases hne.symm.trans (hc.value_ok k opt ev hvc hl hval ht)
      · cases hnin.symm.trans (hc.values_ok k opt evs hvc hl hval hne)
      · cases hrun.symm.trans (hc.validator_ok k opt f hvc hl hf)
    · obtain ⟨v, hv, hp⟩ := hc.aud_ok opt a hl ha ht hne
      cases (hall v hv).symm.trans hp
  | expired =>
    obtain ⟨v, q, hcl, hq, hlt⟩ := hv
    obtain ⟨q', hq', hle⟩ := hc.exp_ok v hcl
    cases hq.symm.trans hq'
    omega
  | invalidToken =>
    rcases hv with ⟨v, q, hcl, hq, hlt⟩ | ⟨v, q, hcl, hq, hlt⟩
    · obtain ⟨q', hq', hle⟩ := hc.nbf_ok v hcl
      cases hq.symm.trans hq'
      omega
    · obtain ⟨q', hq', hle⟩ := hc.iat_ok v hcl
      cases hq.symm.trans hq'
      omega

/-- **C04**: validation succeeds if and only if the claims conform — for every claim dictionary,
    option dictionary, `now` and `leeway`. -/
theorem validate_ok_iff_conforms (c : Claims) (o : Options) (now lw : Int) :
    validate c o now lw = none ↔ Conforms c o now lw :=
  ⟨conforms_of_validate_none, fun hc => Option.eq_none_iff_forall_ne_some.mpr fun e h =>
    violates_not_conforms c o now lw e (error_names_violated_constraint c o now lw e h) hc⟩

theorem never_accepted_of_violates {c : Claims} {o : Options} {now lw : Int} (e : Err)
    (hv : Violates c o now lw e) : validate c o now lw ≠ none :=
  fun hn => violates_not_conforms c o now lw e hv (conforms_of_validate_none hn)

theorem expired_never_accepted (c : Claims) (o : Options) (now lw q : Int) (v : Val)
    (h : c.lookup "exp" = some v) (hq : v.numericDate = some q) (hlt : q < now - lw) :
    validate c o now lw ≠ none :=
  never_accepted_of_violates .expired ⟨v, q, h, hq, hlt⟩

/-- a not-yet-valid token is never accepted -/
theorem not_yet_valid_never_accepted (c : Claims) (o : Options) (now lw q : Int) (v : Val)
    (h : c.lookup "nbf" = some v) (hq : v.numericDate = some q) (hgt : q > now + lw) :
    validate c o now lw ≠ none :=
  never_accepted_of_violates .invalidToken (.inl ⟨v, q, h, hq, hgt⟩)

/-- a JSON boolean is not a NumericDate -/
theorem bool_time_never_accepted (c : Claims) (o : Options) (now lw : Int) (b : Bool) (k : String)
    (hk : k = "exp" ∨ k = "nbf" ∨ k = "iat") (h : c.lookup k = some (.atom (.bool b))) :
    validate c o now lw ≠ none :=
  never_accepted_of_violates (.invalid k) (.inr (.inl ⟨hk, _, h, rfl⟩))

/-- a wrong issuer / subject (expected value given, claim differs) is never accepted -/
theorem wrong_iss_sub_never_accepted (c : Claims) (o : Options) (now lw : Int) (k : String)
    (hk : k = "iss" ∨ k = "sub" ∨ k = "jti") (opt : Opt) (ev : Val)
    (hl : o.lookup k = some opt) (hv : opt.value = some ev) (ht : ev.truthy = true)
    (hne : (getD c k).pyEq ev = false) : validate c o now lw ≠ none :=
  never_accepted_of_violates (.invalid k) (.inr (.inr (.inl
    ⟨by rcases hk with rfl | rfl | rfl <;> decide, opt, hl, .inl ⟨ev, hv, ht, hne⟩⟩)))

/-- a wrong audience is never accepted -/
theorem wrong_aud_never_accepted (c : Claims) (o : Options) (now lw : Int) (opt : Opt) (a : Val)
    (hl : o.lookup "aud" = some opt) (ha : c.lookup "aud" = some a) (ht : a.truthy = true)
    (hne : expectedAud opt ≠ []) (hall : ∀ v ∈ expectedAud opt, pyIn v (audList a) = false) :
    validate c o now lw ≠ none :=
  never_accepted_of_violates (.invalid "aud") (.inr (.inr (.inr ⟨rfl, opt, a, hl, ha, ht, hne, hall⟩)))

-- Two option shapes that RFC 7523 client assertions (C07Jwt) and RFC 9068 access tokens (C10Jwt) share.

theorem Conforms.exp_present {c : Claims} {o : Options} {now lw : Int} (hc : Conforms c o now lw) {opt : Opt}
    (hl : o.lookup "exp" = some opt) (he : opt.essential = true) :
    ∃ v q, c.lookup "exp" = some v ∧ v.numericDate = some q ∧ now - lw ≤ q := by
  obtain ⟨v, hv, _⟩ := hc.essential_ok "exp" opt hl he
  obtain ⟨q, hq, hle⟩ := hc.exp_ok v hv
  exact ⟨v, q, hv, hq, hle⟩

theorem Conforms.aud_contains {c : Claims} {o : Options} {now lw : Int} (hc : Conforms c o now lw) {opt : Opt}
    {x : String} (hl : o.lookup "aud" = some opt) (he : opt.essential = true) (hvs : opt.values = none)
    (hv : opt.value = some (.atom (.str x))) (hx : x ≠ "") :
    ∃ a, c.lookup "aud" = some a ∧ pyIn (.atom (.str x)) (audList a) = true := by
  have hexp : expectedAud opt = [.atom (.str x)] := by
    simp [expectedAud, hvs, hv, optListTruthy, optTruthy, Val.truthy, hx]
  obtain ⟨a, ha, hat⟩ := hc.essential_ok "aud" opt hl he
  obtain ⟨v, hmem, hp⟩ := hc.aud_ok opt a hl ha hat (by simp [hexp])
  rw [hexp, List.mem_singleton] at hmem
  exact ⟨a, ha, hmem ▸ hp⟩

example : validate
    [("iss", .atom (.str "https://as")), ("aud", .list [.str "x", .str "rs"]), ("exp", .atom (.int 100)),
     ("nbf", .atom (.flt 399))]
    [("iss", { essential := true, value := some (.atom (.str "https://as")) }),
     ("aud", { values := some [.atom (.str "rs")] })] 400 0 = none := by decide +kernel

example : validate [("exp", .atom (.int 99))] [] 400 0 = some .expired := by decide +kernel

end Props.C04
