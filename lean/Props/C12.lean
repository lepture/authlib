import Lemmas.OAuth1Flow
import Lemmas.SingleUse
import Props.C12Nonce
/-
  C12 — OAuth 1.0 provider over every history: token credentials only for a temporary credential
  issued to the same client, approved, with the right verifier and signature, not exchanged before
  (step-level + invariant); resources only for requests signed with the stored secrets; each
  (client, token, timestamp, nonce) accepted at most once; old timestamps refused; only configured
  signature methods.
-/
namespace Props.C12
open Model.OAuth1Flow

/-- the request's replay key, when the replay defence applies (everything but a bare PLAINTEXT request) -/
def keyOf (sg : Sig) (client : String) (token : Option Ref) : NonceKey :=
  (sg.nonce.getD "", sg.timestamp.getD "", client, token)

/-- a PLAINTEXT request without timestamp and nonce: `validate_timestamp_and_nonce` lets it through unrecorded -/
def Bare (sg : Sig) : Prop := sg.method = some "PLAINTEXT" ∧ truthy sg.timestamp = false ∧ truthy sg.nonce = false

theorem checkTsNonce_ok {s : Store} {sg : Sig} {client : String} {token : Option Ref} {ns : List NonceKey}
    (h : checkTsNonce s sg client token = .ok ns) :
    (Bare sg ∧ ns = s.nonces) ∨
    (keyOf sg client token ∉ s.nonces ∧ ns = keyOf sg client token :: s.nonces ∧
      ∃ ts, parseInt (sg.timestamp.getD "") = some ts ∧ 0 ≤ ts ∧ s.now - ts ≤ 300) := by
  revert h
  fun_cases checkTsNonce s sg client token <;> intro h <;> cases h
  next hb =>
    exact .inl ⟨by simpa [Bare, and_assoc] using hb, rfl⟩
  next ts hp h0 h300 _ key hk =>
    exact .inr ⟨by simpa [key, keyOf] using hk, rfl, ts, hp, Int.not_lt.mp h0, Int.not_lt.mp h300⟩

theorem checkTsNonce_sub {s : Store} {sg : Sig} {client : String} {token : Option Ref} {ns : List NonceKey}
    (h : checkTsNonce s sg client token = .ok ns) : ∀ k ∈ s.nonces, k ∈ ns := by
  rcases checkTsNonce_ok h with ⟨_, rfl⟩ | ⟨_, rfl, _⟩
  · exact fun k hk => hk
  · exact fun k hk => List.mem_cons_of_mem _ hk

theorem checkTsNonce_error_status {s : Store} {sg : Sig} {client : String} {token : Option Ref} {e : Out}
    (h : checkTsNonce s sg client token = .error e) : e.status ≠ 200 := by
  revert h
  fun_cases checkTsNonce s sg client token <;> intro h <;> cases h
  all_goals decide

theorem checkSig_none {s : Store} {sg : Sig} {cs : String} {ts : Ref} (h : checkSig s sg cs ts = none) :
    (∃ m, sg.method = some m ∧ m ∈ s.methods) ∧ sg.signedWith = some (cs, ts) := by
  revert h
  fun_cases checkSig s sg cs ts <;> intro h <;> cases h
  next hm hc used hu he =>
    refine ⟨?_, by rw [hu, (by simpa using he : used = (cs, ts))]⟩
    cases hmm : sg.method with
    | none => simp [truthy, hmm] at hm
    | some m => exact ⟨m, rfl, by simpa [hmm] using hc⟩

theorem checkSig_some_status {s : Store} {sg : Sig} {cs : String} {ts : Ref} {e : Out}
    (h : checkSig s sg cs ts = some e) : e.status ≠ 200 := by
  revert h
  fun_cases checkSig s sg cs ts <;> intro h <;> cases h
  all_goals decide

theorem truthy_some {o : Option String} (h : ¬(!truthy o) = true) : ∃ x, o = some x := by
  cases o with
  | none => simp [truthy] at h
  | some x => exact ⟨x, rfl⟩

/-- **Step-level statement for the token request.** If `exchangeCheck` passes, the presented temporary credential is in
    the store (issued by this server, not yet exchanged), belongs to the requesting client and was approved; the presented
    verifier is the one recorded at approval; the request is signed with the client's and the temporary credential's
    secrets by a configured method; and it passed the timestamp / nonce check, whose result is the new nonce store. -/
theorem exchangeCheck_ok_spec (s : Store) (client : Option String) (token verifier : Option Ref) (sg : Sig)
    (t : TempRec) (ns : List NonceKey) (h : exchangeCheck s client token verifier sg = .ok (t, ns)) :
    ∃ cid csecret v, client = some cid ∧ s.clients.lookup cid = some csecret ∧ token = some (.tmp t.n) ∧ t ∈ s.temps ∧
      t.client = cid ∧ t.verifier = some v ∧ verifier = some (.ver v) ∧
      sg.signedWith = some (csecret, .tsec (t.n + 1)) ∧ (∃ m, sg.method = some m ∧ m ∈ s.methods) ∧
      checkTsNonce s sg cid token = .ok ns := by
  revert h
  fun_cases exchangeCheck s client token verifier sg <;> intro h <;> cases h
  next hc csecret hl _ hv hf hcl hver hsg hn =>
    obtain ⟨cid, rfl⟩ := truthy_some hc
    obtain ⟨hm, hsw⟩ := checkSig_none hsg
    obtain rfl : t.verifier.map Ref.ver = verifier := by simpa using hver
    split at hf
    next n _ =>
      have hn' : t.n = n := by simpa using List.find?_some hf
      cases hver' : t.verifier with
      | none =>
        rw [hver'] at hv
        exact absurd rfl hv
      | some v =>
        exact ⟨cid, csecret, v, rfl, hl, by rw [hn'], List.mem_of_find?_eq_some hf, by simpa using hcl, rfl, rfl,
          hsw, hm, hn⟩
    next => cases hf

theorem exchangeCheck_error {s : Store} {client : Option String} {token verifier : Option Ref} {sg : Sig}
    {e : Out} {ns : List NonceKey} (h : exchangeCheck s client token verifier sg = .error (e, ns)) :
    e.status ≠ 200 ∧ ∀ k ∈ s.nonces, k ∈ ns := by
  revert h
  fun_cases exchangeCheck s client token verifier sg <;> intro h <;> cases h
  all_goals try exact ⟨Nat.ne_of_beq_eq_false rfl, fun _ h => h⟩
  · exact ⟨checkTsNonce_error_status ‹_›, fun _ h => h⟩
  · exact ⟨checkSig_some_status ‹_›, checkTsNonce_sub ‹_›⟩

/-- `SingleUse` of the numbers of the pending temporary credentials and of those exchanged for a token credential
    (`inv_iff`) -/
structure Inv (s : Store) : Prop where
  temps_le : ∀ t ∈ s.temps, t.n ≤ s.fresh
  from_le : ∀ c ∈ s.creds, c.fromTemp ≤ s.fresh ∧ ∀ t ∈ s.temps, t.n ≠ c.fromTemp
  distinct : s.creds.Pairwise fun c1 c2 => c1.fromTemp ≠ c2.fromTemp

theorem inv_iff {s : Store} : Inv s ↔ SingleUse (s.temps.map (·.n)) (s.creds.map (·.fromTemp)) s.fresh :=
  ⟨fun h => ⟨List.forall_mem_map.mpr h.temps_le, by simpa only [List.forall_mem_map] using h.from_le,
      List.pairwise_map.mpr h.distinct⟩,
   fun h => ⟨List.forall_mem_map.mp h.pending_le, by simpa only [List.forall_mem_map] using h.born_le,
      List.pairwise_map.mp h.distinct⟩⟩

theorem effect_inv {s : Store} {op : Op} {s' : Store} (h : Effect s op s') (hs : Inv s) : Inv s' := by
  rw [inv_iff] at hs ⊢
  cases h
  case initiate =>
    simpa only [List.map_append, List.map_cons, List.map_nil]
      using hs.alloc (Nat.lt_add_of_pos_right (Nat.zero_lt_succ 1))
  case authorize =>
    refine hs.mono (Nat.le_succ _) fun n hn => ?_
    obtain ⟨x, hx, rfl⟩ := List.mem_map.mp (List.map_map ▸ hn)
    refine List.mem_map.mpr ⟨x, hx, ?_⟩
    simp only [Function.comp]
    split <;> rfl
  case exchangeError hts =>
    exact hs.mono (Nat.le_refl _) (List.map_subset _ hts)
  case exchange _ _ hc =>
    obtain ⟨_, _, _, _, _, _, hmem, _⟩ := exchangeCheck_ok_spec _ _ _ _ _ _ _ hc
    simpa only [List.map_append, List.map_cons, List.map_nil, List.filter_map, Function.comp_def] using
      (hs.consume (List.mem_map_of_mem hmem)).mono (Nat.le_add_right _ 2) (List.Subset.refl _)
  all_goals exact hs.mono (Nat.le_refl _) (List.Subset.refl _)

theorem step_preserves_inv (s : Store) (op : Op) (hs : Inv s) : Inv (step s op).1 :=
  effect_inv (step_effect s op) hs

theorem run_preserves_inv (ops : List Op) (s : Store) (h : Inv s) : Inv (run s ops) :=
  List.foldlRecOn ops _ h fun s hs op _ => step_preserves_inv s op hs

/-- **Every temporary credential is exchanged at most once, over every history.** -/
theorem temp_single_use (s0 : Store) (h1 : s0.temps = []) (h2 : s0.creds = []) (ops : List Op) :
    (run s0 ops).creds.Pairwise (fun c1 c2 => c1.fromTemp ≠ c2.fromTemp) ∧
    ∀ c ∈ (run s0 ops).creds, ∀ t ∈ (run s0 ops).temps, t.n ≠ c.fromTemp := by
  have := run_preserves_inv ops s0
    ⟨fun _ h => absurd (h1 ▸ h) List.not_mem_nil, fun _ h => absurd (h2 ▸ h) List.not_mem_nil, h2 ▸ .nil⟩
  exact ⟨this.distinct, fun c hc => (this.from_le c hc).2⟩

/-- token credentials are issued only when `exchangeCheck` passed; they are bound to the requesting
    client and to the user who approved, and the temporary credential is consumed -/
theorem exchange_ok_implies (s : Store) (client : Option String) (token verifier : Option Ref) (sg : Sig)
    (h : (step s (.exchange client token verifier sg)).2.status = 200) :
    ∃ t ns, exchangeCheck s client token verifier sg = .ok (t, ns) ∧
      (∀ x ∈ (step s (.exchange client token verifier sg)).1.temps, x.n ≠ t.n) ∧
      ∃ c ∈ (step s (.exchange client token verifier sg)).1.creds, c.fromTemp = t.n ∧ c.user = t.user ∧ some c.client = client := by
  revert h
  unfold step
  split
  next _ _ hc =>
    exact fun h => absurd h (exchangeCheck_error hc).1
  next t ns hc =>
    intro _
    obtain ⟨cid, _, _, rfl, _⟩ := exchangeCheck_ok_spec _ _ _ _ _ _ _ hc
    exact ⟨t, ns, hc, fun x hx => by simpa using (List.mem_filter.mp hx).2, _,
      List.mem_append_right _ (List.mem_singleton_self _), rfl, rfl, rfl⟩

/-- a protected resource is served only to a request signed with the client's secret and the
    stored token credential's secret, with a configured method — and the request passed the replay
    check, whose result became the new nonce store -/
theorem access_ok_implies (s : Store) (client : Option String) (token : Option Ref) (sg : Sig)
    (h : (step s (.access client token sg)).2.status = 200) :
    ∃ cid csecret c ns, client = some cid ∧ s.clients.lookup cid = some csecret ∧ c ∈ s.creds ∧ c.client = cid ∧ token = some (.tok c.n) ∧
      sg.signedWith = some (csecret, .sec (c.n + 1)) ∧ (∃ m, sg.method = some m ∧ m ∈ s.methods) ∧
      checkTsNonce s sg cid token = .ok ns ∧ (step s (.access client token sg)).1.nonces = ns := by
  generalize hop : Op.access client token sg = op at h ⊢
  revert h
  fun_cases step s op <;> cases hop <;> intro h <;> try cases h
  · exact absurd h (checkTsNonce_error_status ‹_›)
  · exact absurd h (checkSig_some_status ‹_›)
  next csecret c ns hc hl _ hf hsg hn =>
    obtain ⟨cid, rfl⟩ := truthy_some hc
    obtain ⟨hm, hsw⟩ := checkSig_none hsg
    split at hf
    next n _ =>
      have hq : c.n = n ∧ c.client = cid := by simpa using List.find?_some hf
      exact ⟨cid, csecret, c, ns, rfl, hl, List.mem_of_find?_eq_some hf, hq.2, by rw [hq.1], hsw, hm, hn, rfl⟩
    next => cases hf

theorem nonces_monotone (s : Store) (op : Op) : ∀ k ∈ s.nonces, k ∈ (step s op).1.nonces := by
  have h := step_effect s op
  generalize (step s op).1 = s' at h
  cases h
  case nonce h | initiate h =>
    exact checkTsNonce_sub h
  case exchangeError h _ _ =>
    exact (exchangeCheck_error h).2
  case exchange h =>
    obtain ⟨_, _, _, _, _, _, _, _, _, _, _, _, hn⟩ := exchangeCheck_ok_spec _ _ _ _ _ _ _ h
    exact checkTsNonce_sub hn
  all_goals exact fun _ h => h

theorem nonces_monotone_run (ops : List Op) : ∀ s, ∀ k ∈ s.nonces, k ∈ (run s ops).nonces :=
  fun _ k hk =>
    List.foldlRecOn (motive := fun s => k ∈ s.nonces) ops _ hk fun s hs op _ => nonces_monotone s op k hs

theorem replay_refused (s : Store) (sg sg' : Sig) (client : String) (token : Option Ref)
    (hk : keyOf sg client token ∈ s.nonces) (hsame : sg'.nonce = sg.nonce ∧ sg'.timestamp = sg.timestamp)
    (hnb' : ¬ Bare sg') (later : List Op) : ∀ ns, checkTsNonce (run s later) sg' client token ≠ .ok ns := by
  intro ns h
  have hkey : keyOf sg' client token = keyOf sg client token := by simp [keyOf, hsame.1, hsame.2]
  rcases checkTsNonce_ok h with ⟨hb, _⟩ | ⟨hnot, _⟩
  · exact hnb' hb
  · exact hnot (hkey ▸ nonces_monotone_run later s _ hk)

/-- **Each (client, token, timestamp, nonce) is accepted at most once**: once a resource request was
    served, after ANY further history a request with the same combination is refused. -/
theorem nonce_tuple_accepted_at_most_once (s : Store) (client : Option String) (token : Option Ref) (sg : Sig)
    (hnb : ¬ Bare sg) (h : (step s (.access client token sg)).2.status = 200) (later : List Op) (sg' : Sig)
    (hsame : sg'.nonce = sg.nonce ∧ sg'.timestamp = sg.timestamp) (hnb' : ¬ Bare sg') :
    (step (run (step s (.access client token sg)).1 later) (.access client token sg')).2.status ≠ 200 := by
  obtain ⟨cid, _, _, ns, hcl, _, _, _, _, _, _, hn, hstore⟩ := access_ok_implies s client token sg h
  have hrec : keyOf sg cid token ∈ (step s (.access client token sg)).1.nonces := by
    rw [hstore]
    rcases checkTsNonce_ok hn with ⟨hb, _⟩ | ⟨_, rfl, _⟩
    · exact absurd hb hnb
    · exact List.mem_cons_self
  intro h2
  obtain ⟨cid', _, _, ns', hcl', _, _, _, _, _, _, hn', _⟩ := access_ok_implies _ client token sg' h2
  cases hcl.symm.trans hcl'
  exact replay_refused _ sg sg' cid token hrec hsame hnb' later ns' hn'

/-- a timestamp older than the window is refused (for every request the replay defence applies to) -/
theorem old_timestamp_refused (s : Store) (sg : Sig) (client : String) (token : Option Ref) (hnb : ¬ Bare sg) (ts : Int)
    (hp : parseInt (sg.timestamp.getD "") = some ts) (hold : s.now - ts > 300) :
    ∀ ns, checkTsNonce s sg client token ≠ .ok ns := by
  intro ns h
  rcases checkTsNonce_ok h with ⟨hb, _⟩ | ⟨_, _, ts', hp', _, hle⟩
  · exact hnb hb
  · cases hp.symm.trans hp'
    exact absurd hold (Int.not_lt.mpr hle)

/-- only the configured signature methods are accepted -/
theorem only_configured_methods (s : Store) (client : Option String) (token : Option Ref) (sg : Sig)
    (h : (step s (.access client token sg)).2.status = 200) : ∃ m, sg.method = some m ∧ m ∈ s.methods := by
  obtain ⟨_, _, _, _, _, _, _, _, _, _, hm, _, _⟩ := access_ok_implies s client token sg h
  exact hm

end Props.C12
