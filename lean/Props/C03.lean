import Model.Jwe
import Lemmas.Base64
import Lemmas.BigEndian
import Lemmas.List
import Props.C03Registry
/-
  C03 — JWE. The AEAD and key-wrap primitives are parameters (`Prims`: the `cryptography` library on both sides of
  the correspondence); proved is what the library adds around them. Compact: round trip; an accepted serialization
  made the primitive accept exactly the received components, so an accepted alteration is a forgery.
  AES_CBC_HMAC_SHA2, composed by the library itself: the tag is checked in full before AES is touched, and an
  accepted alteration is an HMAC collision (AL makes the MAC input injective). Concat KDF: the other-info is
  injective. JSON: the loop over the recipients finds the entry that authenticates.
-/
namespace Props.C03
open Model Model.Jwe

/-- an accepted serialization: the primitives accepted exactly what was received -/
theorem accept_implies_primitives_accepted (P : Prims) (segs : List (List UInt8)) (h : Header) (pt : Bytes)
    (hacc : deserializeCompact P segs = .ok (h, pt)) :
    ∃ ps eks ivs cts tags hb ek iv ct tag cek msg,
      segs = [ps, eks, ivs, cts, tags] ∧
      Base64.urlDecode ps = some hb ∧ Base64.urlDecode eks = some ek ∧ Base64.urlDecode ivs = some iv ∧
      Base64.urlDecode cts = some ct ∧ Base64.urlDecode tags = some tag ∧
      P.parseHeader hb = some h ∧ P.unwrap h ek = some cek ∧
      P.dec h cek (ascii ps) iv ct tag = some msg ∧
      ((h.zip = none ∧ pt = msg) ∨ (h.zip ≠ none ∧ P.inflate msg = some pt)) := by
  revert hacc
  fun_cases deserializeCompact P segs <;> intro hacc <;> cases hacc
  · exact ⟨_, _, _, _, _, _, _, _, _, _, _, _, rfl, ‹_›, ‹_›, ‹_›, ‹_›, ‹_›, ‹_›, ‹_›, ‹_›, .inl ⟨‹_›, rfl⟩⟩
  · have hz : h.zip ≠ none := by simp [*]
    exact ⟨_, _, _, _, _, _, _, _, _, _, _, _, rfl, ‹_›, ‹_›, ‹_›, ‹_›, ‹_›, ‹_›, ‹_›, ‹_›, .inr ⟨hz, ‹_›⟩⟩

/-- **round trip** of the compact serialization: what the sender's primitives produced, the recipient's
    primitives accept, and the original header and plaintext come back -/
theorem roundtrip_compact (P : Prims) (headerOctets ek iv ct tag cek pt : Bytes) (h : Header)
    (hparse : P.parseHeader headerOctets = some h) (hunwrap : P.unwrap h ek = some cek) (hz : h.zip = none)
    (hdec : P.dec h cek (ascii (Base64.urlEncode headerOctets)) iv ct tag = some pt) :
    deserializeCompact P (serializeCompact headerOctets ek iv ct tag) = .ok (h, pt) := by
  simp [deserializeCompact, serializeCompact, Base64.urlDecode_urlEncode, hparse, hunwrap, hdec, hz]

theorem roundtrip_compact_zip (P : Prims) (headerOctets ek iv ct tag cek pt msg : Bytes) (h : Header) (z : String)
    (hparse : P.parseHeader headerOctets = some h) (hunwrap : P.unwrap h ek = some cek) (hz : h.zip = some z)
    (hdec : P.dec h cek (ascii (Base64.urlEncode headerOctets)) iv ct tag = some msg) (hinf : P.inflate msg = some pt) :
    deserializeCompact P (serializeCompact headerOctets ek iv ct tag) = .ok (h, pt) := by
  simp [deserializeCompact, serializeCompact, Base64.urlDecode_urlEncode, hparse, hunwrap, hdec, hz, hinf]

/-- the AEAD primitive is unforgeable for the sender's outputs: it accepts under `cek` only the
    (aad, iv, ct, tag) tuples in `produced` -/
def Unforgeable (P : Prims) (cek : Bytes) (produced : List (Bytes × Bytes × Bytes × Bytes)) : Prop :=
  ∀ h aad iv ct tag msg, P.dec h cek aad iv ct tag = some msg → (aad, iv, ct, tag) ∈ produced

/-- **tamper rejection as a reduction**: if the sender produced one message under `cek`, and the key
    management is injective enough that the received encrypted key still unwraps to `cek`, then an
    accepted serialization carries exactly the produced protected segment, IV, ciphertext and tag —
    any accepted alteration of one of them contradicts the unforgeability of the AEAD primitive -/
theorem accepted_altered_component_is_a_forgery (P : Prims) (ps eks ivs cts tags : List UInt8) (h : Header) (pt : Bytes)
    (cek aad0 iv0 ct0 tag0 : Bytes)
    (hunf : Unforgeable P cek [(aad0, iv0, ct0, tag0)])
    (hcek : ∀ h' ek c, P.unwrap h' ek = some c → c = cek)
    (hacc : deserializeCompact P [ps, eks, ivs, cts, tags] = .ok (h, pt)) :
    ascii ps = aad0 ∧ Base64.urlDecode ivs = some iv0 ∧ Base64.urlDecode cts = some ct0 ∧ Base64.urlDecode tags = some tag0 := by
  obtain ⟨_, _, _, _, _, hb, ek, iv, ct, tag, cek', msg, hs, -, -, h3, h4, h5, -, h7, h8, -⟩ :=
    accept_implies_primitives_accepted P _ h pt hacc
  cases hs
  obtain rfl := hcek h ek cek' h7
  obtain ⟨rfl, rfl, rfl, rfl⟩ : ascii ps = aad0 ∧ iv = iv0 ∧ ct = ct0 ∧ tag = tag0 := by
    simpa using hunf h _ _ _ _ msg h8
  exact ⟨rfl, h3, h4, h5⟩

/-- acceptance means: 128-bit IV and the received tag equals the computed one, in full -/
theorem cbc_accept_implies_tag_eq (c : CbcHs) (aes : Bytes → Bytes → Bytes → Option Bytes) (cek aad iv ct tag pt : Bytes)
    (h : cbcDecrypt c aes cek aad iv ct tag = some pt) :
    iv.length = 16 ∧ tag = cbcTag c (cek.take c.keyLen) aad iv ct ∧ aes (cek.drop c.keyLen) iv ct = some pt := by
  revert h
  fun_cases cbcDecrypt c aes cek aad iv ct tag <;> intro h
  next => cases h
  next => cases h
  next hiv ht => exact ⟨by simpa using hiv, Eq.symm (by simpa using ht), h⟩

/-- a wrong tag is refused, and AES-CBC is not even invoked (the verdict does not depend on it) -/
theorem cbc_wrong_tag_rejected (c : CbcHs) (aes aes' : Bytes → Bytes → Bytes → Option Bytes) (cek aad iv ct tag : Bytes)
    (hne : tag ≠ cbcTag c (cek.take c.keyLen) aad iv ct) :
    cbcDecrypt c aes cek aad iv ct tag = none ∧ cbcDecrypt c aes' cek aad iv ct tag = none := by
  have hb : (cbcTag c (cek.take c.keyLen) aad iv ct != tag) = true := by
    simpa using Ne.symm hne
  have none_of (f : Bytes → Bytes → Bytes → Option Bytes) : cbcDecrypt c f cek aad iv ct tag = none := by
    simp only [cbcDecrypt, hb, if_true, ite_self]
  exact ⟨none_of aes, none_of aes'⟩

/-- a shortened (or lengthened) tag is refused whenever the MAC output is at least T_LEN long -/
theorem cbc_tag_length_enforced (c : CbcHs) (aes : Bytes → Bytes → Bytes → Option Bytes) (cek aad iv ct tag pt : Bytes)
    (hmac : ∀ k m, c.keyLen ≤ (c.mac k m).length)
    (h : cbcDecrypt c aes cek aad iv ct tag = some pt) : tag.length = c.keyLen := by
  obtain ⟨_, ht, _⟩ := cbc_accept_implies_tag_eq c aes cek aad iv ct tag pt h
  rw [ht, cbcTag, List.length_take]
  exact Nat.min_eq_left (hmac _ _)

theorem al64_length (aad : Bytes) : (al64 aad).length = 8 := by simp [al64]

/-- the MAC input aad ‖ iv ‖ ct ‖ AL is injective in (aad, iv, ct) for 128-bit IVs and AAD shorter
    than 2^61 octets: AL pins the length of the AAD, the IV has fixed length -/
theorem mac_input_injective (aad iv ct aad' iv' ct' : Bytes) (hiv : iv.length = 16) (hiv' : iv'.length = 16)
    (hlen : aad.length = aad'.length)
    (h : aad ++ iv ++ ct ++ al64 aad = aad' ++ iv' ++ ct' ++ al64 aad') : aad = aad' ∧ iv = iv' ∧ ct = ct' := by
  have h1 : aad ++ (iv ++ (ct ++ al64 aad)) = aad' ++ (iv' ++ (ct' ++ al64 aad')) := by
    simpa using h
  obtain ⟨ha, h2⟩ := List.append_inj h1 hlen
  obtain ⟨hi, h3⟩ := List.append_inj h2 (by rw [hiv, hiv'])
  exact ⟨ha, hi, (List.append_inj' h3 (by rw [al64_length, al64_length])).1⟩

/-- AL determines the AAD length below 2^64 bits -/
theorem al64_injective_length (a b : Bytes) (ha : a.length * 8 < 2 ^ 64) (hb : b.length * 8 < 2 ^ 64)
    (h : al64 a = al64 b) : a.length = b.length := by
  have := natBE_inj 8 (n := a.length * 8) (m := b.length * 8) (by omega) (by omega) h
  omega

/-- Equal MAC inputs have equal AL (the last 8 octets), hence AADs of equal length, hence equal components. -/
theorem mac_input_injective_of_bounded {aad iv ct aad' iv' ct' : Bytes} (hiv : iv.length = 16) (hiv' : iv'.length = 16)
    (hsz : aad.length * 8 < 2 ^ 64) (hsz' : aad'.length * 8 < 2 ^ 64)
    (h : aad ++ iv ++ ct ++ al64 aad = aad' ++ iv' ++ ct' ++ al64 aad') : aad = aad' ∧ iv = iv' ∧ ct = ct' :=
  have hal := (List.append_inj' h (by rw [al64_length, al64_length])).2
  mac_input_injective aad iv ct aad' iv' ct' hiv hiv' (al64_injective_length aad aad' hsz hsz' hal) h

/-- **tampering with an AES_CBC_HMAC_SHA2 message reduces to a MAC collision**: if an altered
    (aad, iv, ciphertext) is accepted with the tag of the original, the MAC returned the same T_LEN
    octets on two DIFFERENT inputs -/
theorem cbc_tamper_reduces_to_mac_collision (c : CbcHs) (aes : Bytes → Bytes → Bytes → Option Bytes)
    (cek aad iv ct aad' iv' ct' tag pt : Bytes)
    (horig : tag = cbcTag c (cek.take c.keyLen) aad iv ct) (hiv : iv.length = 16)
    (hsz : aad.length * 8 < 2 ^ 64) (hsz' : aad'.length * 8 < 2 ^ 64)
    (halt : (aad', iv', ct') ≠ (aad, iv, ct))
    (hacc : cbcDecrypt c aes cek aad' iv' ct' tag = some pt) :
    aad' ++ iv' ++ ct' ++ al64 aad' ≠ aad ++ iv ++ ct ++ al64 aad ∧
    (c.mac (cek.take c.keyLen) (aad' ++ iv' ++ ct' ++ al64 aad')).take c.keyLen =
      (c.mac (cek.take c.keyLen) (aad ++ iv ++ ct ++ al64 aad)).take c.keyLen := by
  obtain ⟨hiv', ht, _⟩ := cbc_accept_implies_tag_eq c aes cek aad' iv' ct' tag pt hacc
  refine ⟨?_, ?_⟩
  · intro heq
    obtain ⟨ha, hi, hc⟩ := mac_input_injective_of_bounded hiv' hiv hsz' hsz heq
    exact halt (by rw [ha, hi, hc])
  · rw [horig] at ht
    -- `cbcTag` is the truncated MAC by unfolding
    exact ht.symm

theorem u32_injective {n m : Nat} (hn : n < 2 ^ 32) (hm : m < 2 ^ 32) (h : u32 n = u32 m) : n = m :=
  natBE_inj 4 (by omega) (by omega) h

theorem lenPrefixed_append_inj {a b ra rb : Bytes} (ha : a.length < 2 ^ 32) (hb : b.length < 2 ^ 32)
    (h : lenPrefixed a ++ ra = lenPrefixed b ++ rb) : a = b ∧ ra = rb := by
  simp only [lenPrefixed, List.append_assoc] at h
  obtain ⟨hl, hr⟩ := List.append_inj h (by simp [u32])
  exact List.append_inj hr (u32_injective ha hb hl)

/-- **the KDF other-info is injective**: distinct (AlgorithmID, apu, apv, key length) never share a
    derivation context (fields below 2^32 octets, as the 32-bit length prefix requires) -/
theorem fixedInfo_injective (alg apu apv alg' apu' apv' : Bytes) (bits bits' : Nat)
    (h1 : alg.length < 2 ^ 32) (h1' : alg'.length < 2 ^ 32) (h2 : apu.length < 2 ^ 32) (h2' : apu'.length < 2 ^ 32)
    (h3 : apv.length < 2 ^ 32) (h3' : apv'.length < 2 ^ 32) (hb : bits < 2 ^ 32) (hb' : bits' < 2 ^ 32)
    (h : fixedInfo alg apu apv bits = fixedInfo alg' apu' apv' bits') :
    alg = alg' ∧ apu = apu' ∧ apv = apv' ∧ bits = bits' := by
  simp only [fixedInfo, List.append_assoc] at h
  obtain ⟨ha, r1⟩ := lenPrefixed_append_inj h1 h1' h
  obtain ⟨hu, r2⟩ := lenPrefixed_append_inj h2 h2' r1
  obtain ⟨hv, r3⟩ := lenPrefixed_append_inj h3 h3' r2
  exact ⟨ha, hu, hv, u32_injective hb hb' r3⟩

theorem firstAuthentic_spec {P : JPrims} {aad : Bytes} {rs : List Recipient} {cek : Bytes}
    (h : firstAuthentic P aad rs = some cek) :
    ∃ r ∈ rs, P.unwrap r = some cek ∧ (P.dec cek aad).isSome = true := by
  fun_induction firstAuthentic P aad rs with
  | case1 => cases h
  | case2 r _ _ hu hd =>
    cases h
    exact ⟨r, List.mem_cons_self, hu, hd⟩
  | case3 _ _ _ _ _ ih | case4 _ _ _ ih =>
    obtain ⟨r', hm, h'⟩ := ih h
    exact ⟨r', List.mem_cons_of_mem _ hm, h'⟩

theorem chooseCek_spec {P : JPrims} {j : JsonJwe} {keyKid : Option String} {cek : Bytes}
    (h : chooseCek P j keyKid = some cek) : ∃ r ∈ j.recipients, P.unwrap r = some cek := by
  revert h
  fun_cases chooseCek P j keyKid <;> intro h
  next r hfind =>
    cases keyKid with
    | none => exact nomatch hfind
    | some kid => exact ⟨r, List.mem_of_find?_eq_some hfind, h⟩
  next =>
    obtain ⟨r, hm, hu, -⟩ := firstAuthentic_spec h
    exact ⟨r, hm, hu⟩

/-- an accepted JSON serialization: some recipient entry unwrapped to a CEK under which the content
    authenticated with AAD = received protected text (+ "." + received aad text) -/
theorem json_accept_implies_authenticated (P : JPrims) (j : JsonJwe) (keyKid : Option String) (pt : Bytes)
    (h : deserializeJson P j keyKid = some pt) :
    ∃ r ∈ j.recipients, ∃ cek, P.unwrap r = some cek ∧ P.dec cek (jsonAad j) = some pt := by
  revert h
  fun_cases deserializeJson P j keyKid <;> intro h
  next cek hc =>
    obtain ⟨r, hm, hu⟩ := chooseCek_spec hc
    exact ⟨r, hm, cek, hu, h⟩
  next => cases h

/-- **every recipient can decrypt**: if the recipient's own entry unwraps to a CEK that authenticates
    the content, and no EARLIER entry does (foreign entries either fail to unwrap or — RSA1_5's
    implicit rejection — unwrap to a key that does not authenticate), the loop finds it. This is the
    statement the pre-fix loop ("first entry that unwraps") violated. -/
theorem json_every_recipient_decrypts (P : JPrims) (aad : Bytes) (pre : List Recipient) (own : Recipient) (post : List Recipient)
    (cek pt : Bytes) (hown : P.unwrap own = some cek) (hdec : P.dec cek aad = some pt)
    (hpre : ∀ r ∈ pre, ∀ c, P.unwrap r = some c → P.dec c aad = none) :
    firstAuthentic P aad (pre ++ own :: post) = some cek := by
  induction pre with
  | nil => simp [firstAuthentic, hown, hdec]
  | cons r rest ih =>
    have ih' := ih (fun r' hr' => hpre r' (List.mem_cons_of_mem _ hr'))
    simp only [List.cons_append, firstAuthentic]
    cases hu : P.unwrap r with
    | none => exact ih'
    | some c =>
      have := hpre r List.mem_cons_self c hu
      simp [this, ih']

theorem json_recipient_gets_plaintext (P : JPrims) (j : JsonJwe) (pre : List Recipient) (own : Recipient) (post : List Recipient)
    (cek pt : Bytes) (hrec : j.recipients = pre ++ own :: post)
    (hown : P.unwrap own = some cek) (hdec : P.dec cek (jsonAad j) = some pt)
    (hpre : ∀ r ∈ pre, ∀ c, P.unwrap r = some c → P.dec c (jsonAad j) = none) :
    deserializeJson P j none = some pt := by
  have := json_every_recipient_decrypts P (jsonAad j) pre own post cek pt hown hdec hpre
  simp [deserializeJson, chooseCek, hrec, this, hdec]

/-- the pre-fix loop — the first entry that merely unwraps — loses a legitimate recipient: a concrete
    two-entry message on which it fails while the repaired loop succeeds -/
def firstUnwrapping (P : JPrims) : List Recipient → Option Bytes
  | [] => none
  | r :: rest => match P.unwrap r with | some c => some c | none => firstUnwrapping P rest

def implicitRejection : JPrims :=
  { unwrap := fun r => if r.ek = [1] then some [0xAA] else if r.ek = [2] then some [0xBB] else none,   -- entry 1 is foreign: a random key comes out
    dec := fun cek _ => if cek = [0xBB] then some [112, 116] else none }

theorem first_unwrapping_loop_loses_recipient :
    (firstUnwrapping implicitRejection [⟨none, [1]⟩, ⟨none, [2]⟩]).bind (fun c => implicitRejection.dec c []) = none ∧
    (firstAuthentic implicitRejection [] [⟨none, [1]⟩, ⟨none, [2]⟩]).bind (fun c => implicitRejection.dec c []) = some [112, 116] := by decide +kernel

/-- the AAD binds both texts: with base64url texts (no '.') the pair (protected, aad) is determined by the AAD -/
theorem jsonAad_injective (p a p' a' : List UInt8) (hp : (46 : UInt8) ∉ p) (hp' : (46 : UInt8) ∉ p')
    (h : p ++ [46] ++ a = p' ++ [46] ++ a') : p = p' ∧ a = a' :=
  List.append_cons_inj_of_not_mem a a' hp hp' (by simpa using h)

/-- … and a message with an "aad" member never has the AAD of one without (for the same or any dot-free protected
    text) -/
theorem jsonAad_present_ne_absent (p a p' : List UInt8) (hp' : (46 : UInt8) ∉ p') : p ++ [46] ++ a ≠ p' := by
  intro h
  apply hp'
  rw [← h]
  simp

/-- non-vacuity: a concrete Prims instance and token for which acceptance holds -/
def toyPrims : Prims :=
  { parseHeader := fun _ => some ⟨"dir", "A128GCM", none⟩, unwrap := fun _ _ => some [1, 2, 3],
    dec := fun _ cek _ _ ct tag => if tag = [9] then some (cek ++ ct) else none, inflate := fun b => some b }
example : (deserializeCompact toyPrims (serializeCompact [123, 125] [] [0] [7, 7] [9])).toOption = some (⟨"dir", "A128GCM", none⟩, [1, 2, 3, 7, 7]) := by decide +kernel
example : (deserializeCompact toyPrims (serializeCompact [123, 125] [] [0] [7, 7] [8])).toOption = none := by decide +kernel

end Props.C03
