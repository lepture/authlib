import Model.Jwk
import Lemmas.Base64
import Lemmas.BigEndian
/-
  C16 — JWK member encodings (RFC 7518 §6), export filter (no private-key leakage), RFC 7638
  thumbprint member order, over the field lists regenerated from the key classes.
-/
namespace Props.C16
open Model Model.Jwk

theorem beNat_minBE (n : Nat) : beNat (minBE n) = n := by
  fun_induction minBE n with
  | case1 => rfl
  | case2 _ _ ih =>
    rw [beNat_append_single, UInt8.toNat_ofNat', ih]
    omega

theorem minBE_ne_nil {n : Nat} (h : n ≠ 0) : minBE n ≠ [] := by
  rw [minBE]
  simp [h]

theorem base64ToInt_urlEncode {b : Bytes} (h : b ≠ []) : base64ToInt (Base64.urlEncode b) = some (beNat b) := by
  rw [base64ToInt, Base64.urlDecode_urlEncode]
  cases b with
  | nil => exact absurd rfl h
  | cons _ _ => rfl

/-- **RSA members round-trip**: `base64_to_int(int_to_base64(n)) == n` for every positive integer -/
theorem int_b64_roundtrip (n : Nat) (h : n ≠ 0) : base64ToInt (intToBase64 n) = some n := by
  rw [intToBase64, base64ToInt_urlEncode (minBE_ne_nil h), beNat_minBE]

/-- **RSA members are minimal-length**: the encoded octet string never starts with a zero octet -/
theorem rsa_members_minimal_length : ∀ n : Nat, n ≠ 0 → (minBE n).head? ≠ some 0 := by
  intro n
  fun_induction minBE n with
  | case1 => exact fun h => absurd rfl h
  | case2 n _ ih =>
    intro _
    by_cases hq : n / 256 = 0
    · have : n % 256 ≠ 0 := by omega
      simp [hq, minBE, ← UInt8.toNat_inj, this]
    · cases hm : minBE (n / 256) with
      | nil => exact absurd hm (minBE_ne_nil hq)
      | cons a b => simpa [hm] using ih hq

/-- **EC coordinates and private scalars are full curve-size octet strings** -/
theorem ec_members_full_length (len n : Nat) : (natBE len n).length = len := natBE_length len n

/-- EC members round-trip for every coordinate that fits the curve -/
theorem ec_coord_roundtrip (len n : Nat) (hlen : 0 < len) (h : n < 256 ^ len) :
    base64ToInt (coordToBase64 len n) = some n := by
  have hne : natBE len n ≠ [] := List.ne_nil_of_length_pos ((natBE_length len n).symm ▸ hlen)
  rw [coordToBase64, base64ToInt_urlEncode hne, beNat_natBE len n h]

/-- the encoded text decodes to exactly `len` octets (what a strict consumer checks) -/
theorem ec_coord_decodes_to_full_length (len n : Nat) :
    (Base64.urlDecode (coordToBase64 len n)).map List.length = some len := by
  rw [coordToBase64, Base64.urlDecode_urlEncode]
  simp

/-- **No private-key leakage.** A public export (`is_private = False`) of a key that has a private
    part (`d`) contains only public fields, `kty` and `kid` — for every member list. -/
theorem public_export_only_public_members (publicFields : List String) (kty : String) (tokens : Tokens)
    (thumb : String) (out : Tokens) (hd : (tokens.lookup "d").isSome = true)
    (h : asDict publicFields kty tokens false thumb = some out) :
    ∀ p ∈ out, p.1 ∈ publicFields ∨ p.1 = "kty" ∨ p.1 = "kid" := by
  have base : ∀ q ∈ publicPart publicFields kty tokens, q.1 ∈ publicFields ∨ q.1 = "kty" ∨ q.1 = "kid" :=
    List.forall_mem_append.mpr
      ⟨fun q hq => .inl (by simpa using (List.mem_filter.mp (List.mem_filter.mp hq).1).2),
       List.forall_mem_singleton.mpr (.inr (.inl rfl))⟩
  have kid : ∀ v, ∀ p ∈ (publicPart publicFields kty tokens).filter (fun p => p.1 != "kid") ++ [("kid", v)],
      p.1 ∈ publicFields ∨ p.1 = "kty" ∨ p.1 = "kid" := fun v =>
    List.forall_mem_append.mpr
      ⟨fun p hp => base p (List.mem_filter.mp hp).1, List.forall_mem_singleton.mpr (.inr (.inr rfl))⟩
  simp only [asDict, hd, Bool.false_and, Bool.not_false, Bool.and_true, Bool.false_eq_true, if_false, if_true,
    Option.some.injEq] at h
  subst h
  split <;> exact kid _

/-- over the REGENERATED field lists: no private-only member name is a public field, `kty` or `kid` -/
theorem private_only_not_public :
    (∀ f ∈ Generated.Jose.rsaPrivateKeyFields, f ∉ Generated.Jose.rsaPublicKeyFields → f ≠ "kty" ∧ f ≠ "kid") ∧
    (∀ f ∈ ["d", "p", "q", "dp", "dq", "qi"], f ∉ Generated.Jose.rsaPublicKeyFields) ∧
    ("d" ∉ Generated.Jose.ecPublicKeyFields) ∧ ("d" ∉ Generated.Jose.okpPublicKeyFields) := by
  decide +kernel

theorem private_names : ∀ pf ∈ [Generated.Jose.rsaPublicKeyFields, Generated.Jose.ecPublicKeyFields,
      Generated.Jose.okpPublicKeyFields], ∀ f ∈ ["d", "p", "q", "dp", "dq", "qi"],
    f ∉ pf ∧ f ≠ "kty" ∧ f ≠ "kid" := by decide +kernel

/-- hence: a public export of a private RSA / EC / OKP key never contains `d`, `p`, `q`, `dp`, `dq`, `qi` -/
theorem public_export_has_no_private_member (kty : String) (tokens : Tokens) (thumb : String) (out : Tokens)
    (pf : List String)
    (hpf : pf = Generated.Jose.rsaPublicKeyFields ∨ pf = Generated.Jose.ecPublicKeyFields ∨ pf = Generated.Jose.okpPublicKeyFields)
    (hd : (tokens.lookup "d").isSome = true) (h : asDict pf kty tokens false thumb = some out) :
    ∀ f ∈ ["d", "p", "q", "dp", "dq", "qi"], ∀ p ∈ out, p.1 ≠ f := by
  rintro f hf p hp rfl
  obtain ⟨n1, n2, n3⟩ := private_names pf (by simpa using hpf) p.1 hf
  rcases public_export_only_public_members pf kty tokens thumb out hd h p hp with h1 | h1 | h1
  · exact n1 h1
  · exact n2 h1
  · exact n3 h1

/-- a private export of a public-only key is an error -/
theorem private_export_of_public_is_error (pf : List String) (kty : String) (tokens : Tokens) (thumb : String)
    (hd : (tokens.lookup "d").isSome = false) : asDict pf kty tokens true thumb = none := by
  simp [asDict, hd]

/-- required members + kty in lexicographic order are exactly the RFC 7638 §3.2 member lists
    (RSA: e, kty, n; EC: crv, kty, x, y; oct: k, kty; OKP per RFC 8037: crv, kty, x) -/
theorem thumbprint_members_eq_rfc7638 :
    sortStrings (Generated.Jose.rsaRequiredJsonFields ++ ["kty"]) = ["e", "kty", "n"] ∧
    sortStrings (Generated.Jose.ecRequiredJsonFields ++ ["kty"]) = ["crv", "kty", "x", "y"] ∧
    sortStrings (Generated.Jose.octRequiredJsonFields ++ ["kty"]) = ["k", "kty"] ∧
    sortStrings (Generated.Jose.okpRequiredJsonFields ++ ["kty"]) = ["crv", "kty", "x"] := by
  decide +kernel

/-- RFC 7638 §3.1 example key: the model's thumbprint input is the RFC's canonical JSON -/
example : thumbprintInput Generated.Jose.rsaRequiredJsonFields [("kty", "RSA"), ("n", "0vx7"), ("e", "AQAB"), ("kid", "2011-04-29")]
    = some (strBytes "{\"e\":\"AQAB\",\"kty\":\"RSA\",\"n\":\"0vx7\"}") := by decide +kernel

end Props.C16
