import Model.Authorize
/-
  C05 — the authorization endpoint never sends the user agent to an unregistered URI; state is
  echoed exactly once; credentials only on approval.
-/
namespace Props.C05
open Model.Authorize

/-- what a validated redirect target is -/
def Registered (cfg : Config) (r : Req) (t : String) : Prop :=
  ∃ c id, r.clientId = some id ∧ c ∈ cfg.clients ∧ c.id = id ∧ t ∈ c.uris ∧
    (r.redirectUri = some t ∨ (truthy r.redirectUri = false ∧ c.uris.head? = some t))

theorem validateRedirect_spec {r : Req} {c : Client} {u : String} (h : validateRedirect r c = some u) :
    u ∈ c.uris ∧ (r.redirectUri = some u ∨ (truthy r.redirectUri = false ∧ c.uris.head? = some u)) := by
  revert h
  fun_cases validateRedirect r c <;> intro h
  next hu hc =>
    cases h
    exact ⟨List.contains_iff_mem.mp hc, .inl hu⟩
  · cases h
  · cases h
  next ht => exact ⟨List.mem_of_head? h, .inr ⟨Bool.not_eq_true _ ▸ ht, h⟩⟩

theorem identifyClient_spec {cfg : Config} {g : GrantKind} {r : Req} {c : Client}
    (h : identifyClient cfg g r = some c) : ∃ id, r.clientId = some id ∧ c ∈ cfg.clients ∧ c.id = id := by
  have key : ∀ id, r.clientId = some id → findClient cfg id = some c →
      ∃ id, r.clientId = some id ∧ c ∈ cfg.clients ∧ c.id = id :=
    fun id hid hf => ⟨id, hid, List.mem_of_find?_eq_some hf, by simpa using List.find?_some hf⟩
  revert h
  fun_cases identifyClient cfg g r <;> intro h <;> try cases h
  all_goals exact key _ ‹_› ‹_›

theorem validateAfterRedirect_spec {cfg : Config} {g : GrantKind} {r : Req} {c : Client} {ru : String}
    {resp : Resp} (h : validateAfterRedirect cfg g r c ru = some resp) :
    ∃ m e, resp = .redirect ru m (errorParams e r.state) := by
  revert h
  fun_cases validateAfterRedirect cfg g r c ru <;> intro h <;> cases h
  all_goals exact ⟨_, _, rfl⟩

theorem registered_of {cfg : Config} {g : GrantKind} {r : Req} {c : Client} {ru : String}
    (hc : identifyClient cfg g r = some c) (hv : validateRedirect r c = some ru) : Registered cfg r ru := by
  obtain ⟨id, hid, hmem, hcid⟩ := identifyClient_spec hc
  exact ⟨c, id, hid, hmem, hcid, validateRedirect_spec hv⟩

theorem front_ok {cfg : Config} {r : Req} {g : GrantKind} {c : Client} {ru : String}
    (h : front cfg r = .ok (g, c, ru)) : Registered cfg r ru := by
  revert h
  fun_cases front cfg r <;> intro h <;> cases h
  exact registered_of ‹_› ‹_›

theorem front_error {cfg : Config} {r : Req} {t : String} {m : Mode} {ps : List (String × String)}
    (h : front cfg r = .error (.redirect t m ps)) : Registered cfg r t ∧ ∃ e, ps = errorParams e r.state := by
  revert h
  fun_cases front cfg r <;> intro h <;> cases h
  next ha =>
    obtain ⟨_, e, he⟩ := validateAfterRedirect_spec ha
    cases he
    exact ⟨registered_of ‹_› ‹_›, e, rfl⟩

theorem deliver_target {ru : String} {ps : List (String × String)} {mode : Option String} {dflt t : String}
    {m : Mode} {ps' : List (String × String)} (h : deliver ru ps mode dflt = .redirect t m ps') :
    t = ru ∧ ps' = ps := by
  revert h
  fun_cases deliver ru ps mode dflt <;> intro h <;> cases h
  all_goals exact ⟨rfl, rfl⟩

theorem respond_ok {cfg : Config} {r : Req} {g : GrantKind} {c : Client} {ru : String}
    (hf : front cfg r = .ok (g, c, ru)) {approve : Bool} {t : String} {m : Mode} {ps : List (String × String)}
    (h : respond cfg r approve = .redirect t m ps) :
    t = ru ∧ ps = if approve then grantedParams g ((normRt r.responseType).getD "") ++ stateParam r.state
                  else errorParams "access_denied" r.state := by
  simp only [respond, hf] at h
  cases g
  · cases approve <;> cases h <;> exact ⟨rfl, rfl⟩
  · cases approve <;> cases h <;> exact ⟨rfl, rfl⟩
  · exact deliver_target h
  · exact deliver_target h

/-- `errorParams e s` is `[("error", e)] ++ stateParam s` by definition, so an error redirect has this form as well -/
theorem respond_redirect {cfg : Config} {r : Req} {approve : Bool} {t : String} {m : Mode}
    {ps : List (String × String)} (h : respond cfg r approve = .redirect t m ps) :
    Registered cfg r t ∧ ∃ body, ps = body ++ stateParam r.state ∧
      ((∃ e, body = [("error", e)]) ∨ (approve = true ∧ ∃ g rt, body = grantedParams g rt)) := by
  cases hf : front cfg r with
  | error resp =>
    simp only [respond, hf] at h
    obtain ⟨reg, e, rfl⟩ := front_error (h ▸ hf)
    exact ⟨reg, _, rfl, .inl ⟨e, rfl⟩⟩
  | ok v =>
    obtain ⟨rfl, rfl⟩ := respond_ok hf h
    cases approve
    · exact ⟨front_ok hf, _, rfl, .inl ⟨_, rfl⟩⟩
    · exact ⟨front_ok hf, _, rfl, .inr ⟨rfl, _, _, rfl⟩⟩

/-- **C05 (decision step).** Whatever the request, configuration and decision: a 302 / form_post
    response goes only to a redirect URI the identified, existing client has registered — the one
    in the request if the client accepts it, else the client's default. -/
theorem redirect_only_to_registered (cfg : Config) (r : Req) (approve : Bool) (t : String) (m : Mode)
    (ps : List (String × String)) (h : respond cfg r approve = .redirect t m ps) : Registered cfg r t :=
  (respond_redirect h).1

theorem promptCheck_spec {r : Req} {user : Bool} {ru : String} {md : Mode} {resp : Resp}
    (h : promptCheck r user ru md = some resp) : ∃ e, resp = .redirect ru md (errorParams e r.state) := by
  revert h
  fun_cases promptCheck r user ru md <;> intro h <;> cases h
  all_goals exact ⟨_, rfl⟩

/-- **C05 (consent step, GET).** Same statement for `get_consent_grant` + error handler. -/
theorem consent_redirect_only_to_registered (cfg : Config) (r : Req) (user : Bool) (t : String) (m : Mode)
    (ps : List (String × String)) (h : consent cfg r user = .redirect t m ps) : Registered cfg r t := by
  revert h
  fun_cases consent cfg r user <;> intro h <;> cases h
  · exact (front_error ‹_›).1
  next g _ ru hf check hchk =>
    -- a prompt check refused; which one depends on the grant
    have ⟨md, hp⟩ : ∃ md, promptCheck r user ru md = some (.redirect t m ps) := by
      cases g
      all_goals simp only [check] at hchk
      · split at hchk
        · exact ⟨_, hchk⟩
        · cases hchk
      · cases hchk
      · exact ⟨_, hchk⟩
      · exact ⟨_, hchk⟩
    obtain ⟨e, he⟩ := promptCheck_spec hp
    cases he
    exact front_ok hf

def stateValues (ps : List (String × String)) : List String := (ps.filter (fun p => p.1 == "state")).map (·.2)

def isCredential (k : String) : Bool := k == "code" || k == "access_token" || k == "id_token"

theorem stateParam_eq (s : Option String) : stateParam s = if truthy s then [("state", s.getD "")] else [] := by
  cases s with
  | none => rfl
  | some v => cases hv : v.isEmpty <;> simp [stateParam, truthy, hv]

theorem stateParam_keys (s : Option String) : ∀ p ∈ stateParam s, p.1 ∈ ["state"] := by
  rw [stateParam_eq]
  split <;> simp

theorem grantedParams_keys (g : GrantKind) (rt : String) :
    ∀ p ∈ grantedParams g rt, p.1 ∈ ["code", "access_token", "token_type", "id_token"] := by
  unfold grantedParams
  -- every branch is a list of literals
  repeat' split
  all_goals decide

/-- `hb` is what `respond_redirect` says of the parameters before the state -/
theorem body_keys {approve : Bool} {body : List (String × String)}
    (hb : (∃ e, body = [("error", e)]) ∨ (approve = true ∧ ∃ g rt, body = grantedParams g rt)) :
    ∀ p ∈ body, p.1 ∈ ["error", "code", "access_token", "token_type", "id_token"] := by
  obtain ⟨e, rfl⟩ | ⟨_, g, rt, rfl⟩ := hb
  · simp
  · exact fun p hp => List.mem_cons_of_mem _ (grantedParams_keys g rt p hp)

theorem filter_key_eq_nil {ps : List (String × String)} {keys : List String} (h : ∀ p ∈ ps, p.1 ∈ keys)
    {k : String} (hk : k ∉ keys) : ps.filter (fun p => p.1 == k) = [] :=
  List.filter_eq_nil_iff.mpr fun p hp e => hk (eq_of_beq e ▸ h p hp)

/-- **state is returned unchanged, exactly once** (and not at all when the request had none) in
    every redirect the decision step produces -/
theorem state_echoed_once_unchanged (cfg : Config) (r : Req) (approve : Bool) (t : String) (m : Mode)
    (ps : List (String × String)) (h : respond cfg r approve = .redirect t m ps) :
    stateValues ps = if truthy r.state then [r.state.getD ""] else [] := by
  obtain ⟨_, body, rfl, hb⟩ := respond_redirect h
  rw [stateValues, List.filter_append, filter_key_eq_nil (body_keys hb) (by simp), stateParam_eq]
  split <;> simp

/-- **a code or token appears only if the resource owner approved** -/
theorem credential_only_if_approved (cfg : Config) (r : Req) (approve : Bool) (t : String) (m : Mode)
    (ps : List (String × String)) (h : respond cfg r approve = .redirect t m ps)
    (hcred : ∃ p ∈ ps, isCredential p.1 = true) : approve = true := by
  obtain ⟨_, body, rfl, ⟨e, rfl⟩ | ⟨ha, _⟩⟩ := respond_redirect h
  · obtain ⟨p, hp, hcr⟩ := hcred
    rcases List.mem_append.mp hp with hp | hp
    · rw [List.mem_singleton.mp hp] at hcr
      exact absurd hcr (show ¬ isCredential "error" = true by decide)
    · rw [List.mem_singleton.mp (stateParam_keys _ p hp)] at hcr
      exact absurd hcr (by decide)
  · exact ha

/-- non-vacuity and the formerly failing witness: an unregistered redirect_uri with a missing
    openid scope is now answered locally -/
def exCfg1 : Config := { grants := [GrantKind.code, GrantKind.oidcImplicit, GrantKind.hybrid, GrantKind.implicit], clients := [Client.mk "pub" ["https://good/cb"] ["id_token"] "none"], scopesSupported := none, oidcCodeExt := true, requireNonce := false, usedNonces := [] }
def exReq1 : Req := { responseType := some "id_token", clientId := some "pub", redirectUri := some "https://evil/cb", scope := some "profile", state := some "s" }
example : respond exCfg1 exReq1 true = .localError 400 "invalid_request" := by decide +kernel

def exCfg2 : Config := { grants := [GrantKind.code], clients := [Client.mk "c" ["https://good/cb"] ["code"] "client_secret_basic"], scopesSupported := none, oidcCodeExt := false, requireNonce := false, usedNonces := [] }
def exReq2 : Req := { responseType := some "code", clientId := some "c", redirectUri := none, scope := none, state := some "xyz" }
example : respond exCfg2 exReq2 true = .redirect "https://good/cb" .query [("code", "<code>"), ("state", "xyz")] := by
  decide +kernel

end Props.C05
