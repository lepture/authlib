import Props.C02Keys
import Model.KeyPolicy
import Lemmas.Jws
/-
  C02 — algorithm allow-list, key-family matching, key selection, use / key_ops, crit, and the
  HMAC-secret guard. `policy` is the verification-side decision; signature checking itself is C01.
-/
namespace Props.C02
open Model Model.Jws Model.KeyPolicy

/-- **Core statement.** A key is handed to signature verification only if the algorithm is named
    by the header, registered, on the allow-list, not `none`, of the same family (and curve) as the
    key, the key is the one the caller designated (by `kid` for key sets), `use`/`key_ops` permit
    verification, and every `crit` extension is understood and present. -/
theorem verified_implies_policy (registry : String → Option Alg) (privOps : List String)
    (allowed : Option (List String)) (privHdrs : List String) (h : Hdr) (arg : KeyArg) (a : Alg) (k : KeyDesc)
    (hp : policy registry privOps allowed privHdrs h arg = .ok (a, k)) :
    ∃ name, h.alg = some name ∧ registry name = some a ∧ (∀ l, allowed = some l → name ∈ l) ∧
      a ≠ .none ∧ familyOk a k.kty = true ∧ selectKey arg h.kid h.jwk = .ok k ∧
      checkKeyOp privOps "verify" k = .ok () ∧ critOk privHdrs h = true := by
  revert hp
  fun_cases policy registry privOps allowed privHdrs h arg <;> intro hp <;> cases hp
  next hc name halg hal hreg hne hsel hck hf =>
    exact ⟨name, halg, hreg, (allowedOk_iff allowed name).mp (by simpa using hal), hne, by simpa using hf, hsel, hck,
      by simpa using hc⟩

/-- `alg: none` never reaches verification with a key -/
theorem none_rejected (registry : String → Option Alg) (privOps : List String) (allowed : Option (List String))
    (privHdrs : List String) (h : Hdr) (arg : KeyArg) (k : KeyDesc) :
    policy registry privOps allowed privHdrs h arg ≠ .ok (.none, k) := by
  intro hp
  obtain ⟨_, _, _, _, hne, _⟩ := verified_implies_policy registry privOps allowed privHdrs h arg .none k hp
  exact hne rfl

/-- a key of another family never verifies (HS* with an asymmetric key object, RS* with oct, …) -/
theorem wrong_family_rejected (registry : String → Option Alg) (privOps : List String) (allowed : Option (List String))
    (privHdrs : List String) (h : Hdr) (arg : KeyArg) (a : Alg) (k : KeyDesc) (hf : familyOk a k.kty = false) :
    policy registry privOps allowed privHdrs h arg ≠ .ok (a, k) := by
  intro hp
  obtain ⟨_, _, _, _, _, hf', _⟩ := verified_implies_policy registry privOps allowed privHdrs h arg a k hp
  rw [hf] at hf'
  cases hf'

/-- an EC key of another curve never verifies -/
theorem wrong_curve_rejected (registry : String → Option Alg) (privOps : List String) (allowed : Option (List String))
    (privHdrs : List String) (h : Hdr) (arg : KeyArg) (crv c : String) (n : Nat) (k : KeyDesc)
    (hk : k.kty = .ec c) (hne : crv ≠ c) :
    policy registry privOps allowed privHdrs h arg ≠ .ok (.es crv n, k) :=
  wrong_family_rejected registry privOps allowed privHdrs h arg _ k (by simp [hk, familyOk, hne])

/-- a `KeySet` object and a dict with `keys` are selected from alike, so the theorems below speak of both at once -/
theorem selectKey_set (ks : List KeyDesc) (isObj : Bool) (kid : Option String) (e : Option KeyDesc) :
    selectKey (if isObj then .keySet ks else .dictSet ks) kid e = selectKey (.keySet ks) kid e := by
  cases isObj <;> rfl

/-- with a key set, the key is picked by the header kid -/
theorem kid_selects_designated_key (ks : List KeyDesc) (isObj : Bool) (kid : String) (k : KeyDesc)
    (h : selectKey (if isObj then .keySet ks else .dictSet ks) (some kid) = .ok k) :
    k ∈ ks ∧ k.kid = some kid := by
  rw [selectKey_set, selectKey] at h
  split at h
  next hf =>
    cases h
    exact ⟨List.mem_of_find?_eq_some hf, by simpa using List.find?_some hf⟩
  next => cases h

/-- an unknown kid is an error, not a trial of other keys -/
theorem unknown_kid_is_error (ks : List KeyDesc) (isObj : Bool) (kid : String)
    (hno : ∀ k ∈ ks, k.kid ≠ some kid) :
    selectKey (if isObj then .keySet ks else .dictSet ks) (some kid) = .error .keyValue := by
  have hf : ks.find? (fun k => k.kid == some kid) = none := by
    apply List.find?_eq_none.mpr
    intro k hk
    simpa using hno k hk
  rw [selectKey_set]
  simp [selectKey, hf]

/-- a missing kid when several keys exist (or none) is an error -/
theorem missing_kid_many_keys_is_error (ks : List KeyDesc) (isObj : Bool) (hlen : ks.length ≠ 1) :
    selectKey (if isObj then .keySet ks else .dictSet ks) none = .error .keyValue := by
  rw [selectKey_set]
  match ks, hlen with
  | [], _ => rfl
  | [_], h => exact absurd rfl h
  | _ :: _ :: _, _ => rfl

/-- a key resolver's answer is the key that is used, whatever key the token offers in its own `jwk` header -/
theorem resolver_key_is_used (k : KeyDesc) (kid : Option String) (embedded : Option KeyDesc) :
    selectKey (.resolver (some k)) kid embedded = .ok k := rfl

/-- a resolver that has no key for the token is an error — the token's own `jwk` header is NOT tried -/
theorem resolver_without_key_is_error (kid : Option String) (embedded : Option KeyDesc) :
    selectKey (.resolver none) kid embedded = .error .keyValue := rfl

/-- hence: nothing is verified when the resolver has no key, for every header (in particular one that carries a
    `jwk`) -/
theorem resolver_without_key_never_verifies (registry : String → Option Alg) (privOps : List String)
    (allowed : Option (List String)) (privHdrs : List String) (h : Hdr) (a : Alg) (k : KeyDesc) :
    policy registry privOps allowed privHdrs h (.resolver none) ≠ .ok (a, k) := by
  intro hp
  obtain ⟨_, _, _, _, _, _, hsel, _⟩ := verified_implies_policy registry privOps allowed privHdrs h _ a k hp
  simp [selectKey] at hsel

/-- the key a token carries in its own `jwk` header is used only when the caller designated no key at all -/
theorem embedded_jwk_only_without_designated_key (arg : KeyArg) (kid : Option String) (e k : KeyDesc)
    (h : selectKey arg kid (some e) = .ok k) (hne : selectKey arg kid none ≠ .ok k) : arg = .absent := by
  cases arg with
  | absent => rfl
  | single _ | keySet _ | dictSet _ => exact absurd h hne
  | resolver a =>
    cases a with
    | none => simp [selectKey] at h
    | some k' => exact absurd h hne

/-- no key and no `jwk` header: an error -/
theorem absent_key_without_jwk_is_error (kid : Option String) : selectKey .absent kid none = .error .keyValue := rfl

theorem use_keyops_honoured (privOps : List String) (k : KeyDesc) (h : checkKeyOp privOps "verify" k = .ok ()) :
    (∀ ops, k.keyOps = some ops → "verify" ∈ ops) ∧ (∀ u, k.use = some u → u ≠ "" → u = "sig") := by
  revert h
  fun_cases checkKeyOp privOps "verify" k <;> intro h <;> cases h
  next h1 _ h3 =>
    constructor
    · intro ops ho
      simpa [keyOpsAllow, ho] using h1
    · intro u hu hne
      simpa [useOk, hu, hne] using h3

/-- a JWS listing under `crit` an extension the library does not implement, or one that is absent
    from the header, is rejected -/
theorem crit_unknown_rejected (registry : String → Option Alg) (privOps : List String) (allowed : Option (List String))
    (privHdrs : List String) (h : Hdr) (arg : KeyArg) (names : List String) (n : String)
    (hcrit : h.crit = some names) (hn : n ∈ names) (hbad : n ∉ privHdrs ∨ n ∉ h.members) :
    policy registry privOps allowed privHdrs h arg = .error .invalidHeaderName := by
  have : critOk privHdrs h = false := by
    simp only [critOk, hcrit]
    refine Bool.and_eq_false_imp.mpr fun _ => List.all_eq_false.mpr ⟨n, hn, ?_⟩
    rcases hbad with hb | hb <;> simp [hb]
  simp [policy, this]

/-- with no private headers configured, every `crit` is rejected (the library implements no extension) -/
theorem any_crit_rejected_by_default (registry : String → Option Alg) (privOps : List String)
    (allowed : Option (List String)) (h : Hdr) (arg : KeyArg) (names : List String) (hcrit : h.crit = some names) :
    policy registry privOps allowed [] h arg = .error .invalidHeaderName := by
  have : critOk [] h = false := by
    cases names <;> simp [critOk, hcrit]
  simp [policy, this]

theorem isInfix_of_isPrefix {m s : Bytes} (h : isPrefix m s = true) : isInfix m s = true := by
  cases s with
  | nil =>
    obtain rfl : [] = m := by simpa [isPrefix] using h
    rfl
  | cons c r => simp [isInfix, h]

theorem isInfix_append (m : Bytes) : ∀ (pre post : Bytes), isInfix m (pre ++ (m ++ post)) = true
  | [], post => isInfix_of_isPrefix (by simp [isPrefix])
  | x :: pre, post => by simp [isInfix, isInfix_append m pre post]

/-- What `cryptography` can load as a key from text (stated as a hypothesis about the primitive):
    either an SSH public key line starting with a key-type token, or text containing a PEM armor. -/
def PemNeedsMarker (loads : Bytes → Bool) : Prop :=
  ∀ raw, loads raw = true →
    (∃ p ∈ [Model.strBytes "ssh-rsa ", Model.strBytes "ssh-dss ", Model.strBytes "ssh-ed25519 ", Model.strBytes "ecdsa-sha2-"],
        isPrefix p raw = true) ∨
    (∃ pre post, raw = pre ++ Model.strBytes "-----BEGIN " ++ post)

/-- **HS/RS confusion guard**, over the prefix and marker lists regenerated from the code:
    every byte string the asymmetric loader accepts is refused as an HMAC secret. -/
theorem asym_text_never_hmac_key (loads : Bytes → Bool) (hl : PemNeedsMarker loads) (raw : Bytes)
    (h : loads raw = true) :
    octImportOk Generated.Jose.possibleUnsafeKeys Generated.Jose.possibleUnsafeMarkers raw = false := by
  have hsub : ∀ p ∈ [Model.strBytes "ssh-rsa ", Model.strBytes "ssh-dss ", Model.strBytes "ssh-ed25519 ",
      Model.strBytes "ecdsa-sha2-"], p ∈ Generated.Jose.possibleUnsafeKeys := by decide +kernel
  have hmark : Model.strBytes "-----BEGIN " ∈ Generated.Jose.possibleUnsafeMarkers := by decide +kernel
  simp only [octImportOk, Bool.not_eq_false', Bool.or_eq_true, List.any_eq_true]
  rcases hl raw h with ⟨p, hp, hpre⟩ | ⟨pre, post, rfl⟩
  · exact .inl ⟨p, hsub p hp, hpre⟩
  · exact .inr ⟨_, hmark, List.append_assoc pre _ post ▸ isInfix_append _ pre post⟩

/-- the witness that used to be accepted (leading newline before the armor line) -/
example : octImportOk Generated.Jose.possibleUnsafeKeys Generated.Jose.possibleUnsafeMarkers
    (Model.strBytes "\n-----BEGIN PUBLIC KEY-----\nMIIB") = false := by decide +kernel

/-- an ordinary secret is still importable (non-vacuity) -/
example : octImportOk Generated.Jose.possibleUnsafeKeys Generated.Jose.possibleUnsafeMarkers
    (Model.strBytes "correct horse battery staple") = true := by decide +kernel

end Props.C02
