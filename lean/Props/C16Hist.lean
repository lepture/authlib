import Props.C16Core
import Model.KeyObject
import Lemmas.List
/-
  C16 over histories of one key object: after any sequence of exports (JWK dict / JSON, PEM / DER, thumbprint,
  public key object; private or public) an export returns what it returns on the freshly imported key. Hence
  "a public export never contains a private parameter" and "a private export of a public-only key is an error"
  hold at every point of every history.
-/
namespace Props.C16Hist
open Model Model.Jwk Model.KeyObject

/-- the members every export reads: `self.tokens` once `_dict_data` is loaded -/
def view (k : Kind) (m : Mat) (s : St) : Tokens := tokensOf k (loadDict m s)

/-- does the key object hold private material, as `as_dict` / `load_raw_key` decide it -/
def hasD (k : Kind) (m : Mat) (s : St) : Bool := ((view k m s).lookup "d").isSome

/-- well-formed key object: the codecs produce members, and a loaded private object agrees with the members -/
structure WF (k : Kind) (m : Mat) (s : St) : Prop where
  loaded_nonempty : (loadDict m s).dict ≠ []
  priv_has_d : s.privObj = true → hasD k m s = true

theorem loadDict_of_nonempty (m : Mat) (s : St) (h : s.dict ≠ []) : loadDict m s = s := by
  simp [loadDict, h]

theorem loadDict_options (m : Mat) (s : St) : (loadDict m s).options = s.options := by
  fun_cases loadDict m s <;> rfl

theorem loadDict_privObj (m : Mat) (s : St) : (loadDict m s).privObj = s.privObj := by
  fun_cases loadDict m s <;> rfl

theorem loadDict_pubObj (m : Mat) (s : St) : (loadDict m s).pubObj = s.pubObj := by
  fun_cases loadDict m s <;> rfl

/-- every export leaves a state of this kind: the loaded members, the same options, and the private
    object only if the members hold `d`. Such a state is well-formed and reads the same members. -/
theorem wf_of_same_dict {k : Kind} {m : Mat} {s s' : St} (h : WF k m s) (hd : s'.dict = (loadDict m s).dict)
    (ho : s'.options = s.options) (hp : s'.privObj = true → hasD k m s = true) :
    WF k m s' ∧ view k m s' = view k m s := by
  have hl : loadDict m s' = s' := loadDict_of_nonempty m s' (hd ▸ h.loaded_nonempty)
  have hv : view k m s' = view k m s := by
    unfold view tokensOf
    rw [hl, hd, ho, loadDict_options]
  refine ⟨⟨?_, fun hs => ?_⟩, hv⟩
  · rw [hl, hd]
    exact h.loaded_nonempty
  · unfold hasD
    rw [hv]
    exact hp hs

theorem loadDict_spec {k : Kind} {m : Mat} {s : St} (h : WF k m s) :
    WF k m (loadDict m s) ∧ view k m (loadDict m s) = view k m s :=
  wf_of_same_dict h rfl (loadDict_options m s) fun hp => h.priv_has_d (loadDict_privObj m s ▸ hp)

theorem loadRaw_spec {k : Kind} {m : Mat} {s : St} (h : WF k m s) (hp : s.privObj = false) :
    (WF k m (loadRaw k m s) ∧ view k m (loadRaw k m s) = view k m s) ∧
    (loadRaw k m s).privObj = hasD k m s := by
  fun_cases loadRaw k m s
  next hd => exact ⟨wf_of_same_dict h rfl (loadDict_options m s) fun _ => hd, hd.symm⟩
  next hd =>
    have hp0 : (loadDict m s).privObj = false := (loadDict_privObj m s).trans hp
    refine ⟨wf_of_same_dict h rfl (loadDict_options m s) fun hp' => ?_, ?_⟩
    · exact absurd (hp0 ▸ hp') Bool.false_ne_true
    · exact hp0.trans (Bool.not_eq_true _ ▸ hd).symm

theorem getPrivate_spec {k : Kind} {m : Mat} {s : St} (h : WF k m s) :
    (WF k m (getPrivate k m s) ∧ view k m (getPrivate k m s) = view k m s) ∧
    (getPrivate k m s).privObj = hasD k m s := by
  fun_cases getPrivate k m s
  next hp => exact ⟨⟨h, rfl⟩, by rw [hp, h.priv_has_d hp]⟩
  next hp => exact loadRaw_spec h (by simpa using hp)

theorem getPublic_spec {k : Kind} {m : Mat} {s : St} (h : WF k m s) :
    WF k m (getPublic k m s) ∧ view k m (getPublic k m s) = view k m s := by
  fun_cases getPublic k m s
  · exact ⟨h, rfl⟩
  · exact (getPrivate_spec h).1

/-- what an export returns, as a function of the members alone -/
def observe (k : Kind) (thumb : String) (v : Tokens) : Op → Out
  | .asDict isPrivate =>
    match Jwk.asDict k.publicFields k.kty v isPrivate thumb with
    | some t => .members t
    | none => .valueError
  | .asBytes true => if (v.lookup "d").isSome then .bytes true else .valueError
  | .asBytes false => .bytes false
  | .thumbprint => .done
  | .getPublicKey => .done

theorem step_spec {k : Kind} {m : Mat} (thumb : String) {s : St} (op : Op) (h : WF k m s) :
    (WF k m (step k m thumb s op).1 ∧ view k m (step k m thumb s op).1 = view k m s) ∧
    (step k m thumb s op).2 = observe k thumb (view k m s) op := by
  fun_cases step k m thumb s op
  · exact ⟨loadDict_spec h, rfl⟩
  · refine ⟨(getPrivate_spec h).1, ?_⟩
    show (if (getPrivate k m s).privObj = true then _ else _) = _
    rw [(getPrivate_spec h).2]
    rfl
  · exact ⟨getPublic_spec h, rfl⟩
  · exact ⟨loadDict_spec h, rfl⟩
  · exact ⟨getPublic_spec h, rfl⟩

theorem run_fst (k : Kind) (m : Mat) (thumb : String) (ops : List Op) (s : St) :
    (run k m thumb s ops).1 = ops.foldl (fun s op => (step k m thumb s op).1) s :=
  List.fst_run_eq_foldl (run := run k m thumb) (fun _ => rfl) (fun _ _ _ => rfl) ops s

theorem run_spec {k : Kind} {m : Mat} (thumb : String) (ops : List Op) {s : St} (h : WF k m s) :
    WF k m (run k m thumb s ops).1 ∧ view k m (run k m thumb s ops).1 = view k m s :=
  run_fst k m thumb ops s ▸
    List.foldlRecOn (motive := fun s' => WF k m s' ∧ view k m s' = view k m s) ops _ ⟨h, rfl⟩
      fun _ hs op _ =>
        let ⟨⟨a, b⟩, _⟩ := step_spec thumb op hs.1
        ⟨a, b.trans hs.2⟩

/-- **History independence.** After ANY sequence of export calls an export returns exactly what it returns
    on the freshly imported key object. -/
theorem export_is_history_independent (k : Kind) (m : Mat) (thumb : String) (s : St) (h : WF k m s) (ops : List Op) (op : Op) :
    (step k m thumb (run k m thumb s ops).1 op).2 = (step k m thumb s op).2 := by
  obtain ⟨a, b⟩ := run_spec thumb ops h
  rw [(step_spec thumb op a).2, (step_spec thumb op h).2, b]

/-- at every point of every history a public export of an RSA / EC / OKP key holding private material
    contains none of `d`, `p`, `q`, `dp`, `dq`, `qi` -/
theorem public_export_never_leaks (k : Kind) (m : Mat) (thumb : String) (s : St) (h : WF k m s) (ops : List Op) (out : Tokens)
    (hpf : k.publicFields = Generated.Jose.rsaPublicKeyFields ∨ k.publicFields = Generated.Jose.ecPublicKeyFields ∨
           k.publicFields = Generated.Jose.okpPublicKeyFields)
    (hd : hasD k m s = true)
    (ho : (step k m thumb (run k m thumb s ops).1 (.asDict false)).2 = .members out) :
    ∀ f ∈ ["d", "p", "q", "dp", "dq", "qi"], ∀ p ∈ out, p.1 ≠ f := by
  rw [export_is_history_independent k m thumb s h ops, (step_spec thumb _ h).2] at ho
  simp only [observe] at ho
  split at ho
  next t ht =>
    injection ho with ho
    subst ho
    exact Props.C16.public_export_has_no_private_member k.kty (view k m s) thumb t k.publicFields hpf hd ht
  next => cases ho

/-- at every point of every history the private export (JWK or PEM / DER) of a public-only key is an error -/
theorem private_export_of_public_only_always_errors (k : Kind) (m : Mat) (thumb : String) (s : St) (h : WF k m s) (ops : List Op)
    (hd : hasD k m s = false) (isBytes : Bool) :
    (step k m thumb (run k m thumb s ops).1 (if isBytes then .asBytes true else .asDict true)).2 = .valueError := by
  rw [export_is_history_independent k m thumb s h ops, (step_spec thumb _ h).2]
  have hd' : ((view k m s).lookup "d").isSome = false := hd
  cases isBytes with
  | true => simp [observe, hd']
  | false =>
    simp only [Bool.false_eq_true, if_false, observe]
    rw [Props.C16.private_export_of_public_is_error k.publicFields k.kty (view k m s) thumb hd']

/-- the three ways a key object comes into being are well-formed -/
theorem wf_ofDict (k : Kind) (m : Mat) (raw options : Tokens) (h : raw ≠ []) : WF k m (ofDict raw options) := by
  refine ⟨?_, fun hp => by simp [ofDict] at hp⟩
  rw [loadDict_of_nonempty m _ h]
  exact h

theorem wf_ofPublicObject (k : Kind) (m : Mat) (options : Tokens) (h : update [] m.pub ≠ []) : WF k m (ofPublicObject options) :=
  ⟨h, fun hp => nomatch hp⟩

theorem wf_ofPrivateObject (k : Kind) (m : Mat) (options : Tokens) (h : update [] m.priv ≠ [])
    (hd : hasD k m (ofPrivateObject options) = true) : WF k m (ofPrivateObject options) :=
  ⟨h, fun _ => hd⟩

theorem any_setKey (t : Tokens) (k v k' : String) :
    (setKey t k v).any (fun p => p.1 == k') = (t.any (fun p => p.1 == k') || k == k') := by
  unfold setKey
  split
  next hk =>
    have hname (p : String × String) : (if p.1 == k then (k, v) else p).1 = p.1 := by
      split
      next h => exact (eq_of_beq h).symm
      next => rfl
    simp only [List.any_map, Function.comp_def, hname]
    exact (Bool.or_eq_left_iff_imp.mpr fun e => eq_of_beq e ▸ hk).symm
  next => simp

theorem any_update (t new : Tokens) (k' : String) :
    (update t new).any (fun p => p.1 == k') = (t.any (fun p => p.1 == k') || new.any (fun p => p.1 == k')) := by
  unfold update
  induction new generalizing t with
  | nil => simp
  | cons a new ih =>
    simp only [List.foldl_cons, List.any_cons]
    rw [ih, any_setKey, Bool.or_assoc]

theorem any_addParams (options : Tokens) (k' : String) (ks : List String) (rv : Tokens) (hk : k' ∉ ks) :
    (addParams options ks rv).any (fun p => p.1 == k') = rv.any (fun p => p.1 == k') := by
  fun_induction addParams options ks rv with
  | case1 => rfl
  | case2 k _ _ _ _ ih =>
    have hne : (k == k') = false := beq_false_of_ne fun e => hk (e ▸ List.mem_cons_self)
    rw [ih fun e => hk (List.mem_cons_of_mem _ e)]
    split
    · rfl
    · simp [hne]
  | case3 _ _ _ _ ih => exact ih fun e => hk (List.mem_cons_of_mem _ e)

/-- options cannot add a `d` member (`d` is no ALLOWED_PARAMS name) and `kty` is not `d` -/
theorem hasD_eq (k : Kind) (m : Mat) (s : St) (hk : "d" ∉ k.allowedParams) :
    hasD k m s = (if s.dict.isEmpty then (if s.privObj then m.priv else m.pub).any (fun p => p.1 == "d")
                  else s.dict.any (fun p => p.1 == "d")) := by
  unfold hasD view tokensOf
  rw [List.lookup_isSome_eq_any, any_addParams _ _ _ _ hk, any_setKey]
  have : ("kty" == "d") = false := by decide
  rw [this, Bool.or_false]
  unfold loadDict
  split
  next hE => simp [any_update, List.isEmpty_iff.mp hE]
  next => rfl

theorem wf_ofPrivateObject_of_material (k : Kind) (m : Mat) (options : Tokens) (hk : "d" ∉ k.allowedParams)
    (hd : (m.priv.lookup "d").isSome = true) : WF k m (ofPrivateObject options) ∧ hasD k m (ofPrivateObject options) = true := by
  have hany : m.priv.any (fun p => p.1 == "d") = true := (List.lookup_isSome_eq_any _ _).symm.trans hd
  have hne : update [] m.priv ≠ [] := fun e => by simpa [e, hany] using any_update [] m.priv "d"
  have hD : hasD k m (ofPrivateObject options) = true := by
    rw [hasD_eq k m _ hk]
    simp [ofPrivateObject, hany]
  exact ⟨wf_ofPrivateObject k m options hne hD, hD⟩

theorem hasD_ofPublicObject (k : Kind) (m : Mat) (options : Tokens) (hk : "d" ∉ k.allowedParams)
    (hd : (m.pub.lookup "d").isSome = false) : hasD k m (ofPublicObject options) = false := by
  rw [hasD_eq k m _ hk]
  have : m.pub.any (fun p => p.1 == "d") = false := (List.lookup_isSome_eq_any _ _).symm.trans hd
  simp [ofPublicObject, this]

/-- `d` is not among the regenerated `Key.ALLOWED_PARAMS` -/
theorem d_not_allowed_param : "d" ∉ Generated.Jose.allowedParams := by decide +kernel

/-- non-vacuity: an EC-shaped private key object, exported publicly after private exports -/
example :
    let k : Kind := { kty := "EC", publicFields := Generated.Jose.ecPublicKeyFields, allowedParams := ["use", "key_ops", "alg", "kid"] }
    let m : Mat := { pub := [("crv", "P-256"), ("x", "AA"), ("y", "BB")], priv := [("crv", "P-256"), ("x", "AA"), ("y", "BB"), ("d", "CC")] }
    (run k m "T" (ofPrivateObject [("use", "sig")]) [.asDict true, .asBytes true, .asDict false]).2 =
      [.members [("crv", "P-256"), ("x", "AA"), ("y", "BB"), ("d", "CC"), ("kty", "EC"), ("use", "sig"), ("kid", "T")], .bytes true,
       .members [("crv", "P-256"), ("x", "AA"), ("y", "BB"), ("kty", "EC"), ("kid", "T")]] := by decide +kernel

end Props.C16Hist
